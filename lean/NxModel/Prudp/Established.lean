import NxModel.Prudp.Conn
/-!
# what a handshake must leave behind, as a Bool (executable: evaluated by the L1 driver on the two model endpoints after every
replayed real handshake, and by the kernel on closed witnesses)

`establishedB sub start a b` — endpoint `a` as the sender and endpoint `b` as the receiver of substream `sub` are in the state
from which the end-to-end theorems of `NxProofs/Sys.lean` start (`established_of_B` in `NxProofs/Established.lean`, `good_of_established`): `a`'s next id is
`start`, both cipher positions are 0 under equal keys, `b`'s window is empty at `start`, its queue and fragment buffer are empty,
it is open on a live link, and no retransmission timer of `a` holds a packet of the channel.
-/
namespace Nx.L1
open Nx Nx.Prudp

def actPacket : Action → Option Packet
  | .resend p _ => some p
  | .ping => none

def resendsOf (c : Conn) : List Packet :=
  match c.sched with
  | none => []
  | some s => s.events.filterMap (fun t => actPacket t.act)

/-- a packet of the channel under study: reliable, of the substream, not of the handshake -/
def relevant (sub : Nat) (p : Packet) : Bool :=
  decide (p.substreamId = sub) && hasReliable p.flags && decide (p.type ≠ TYPE_SYN) && decide (p.type ≠ TYPE_CONNECT)

/-- `Established`, as a Bool (for closed witnesses) -/
def establishedB (sub start : Nat) (a b : Conn) : Bool :=
  decide (start < 65536) && (a.counters[sub]? == some start) &&
  ((a.relCiphers[sub]?).map (·.encPos) == some 0) && ((b.relCiphers[sub]?).map (·.decPos) == some 0) &&
  ((a.relCiphers[sub]?).map StreamCipher.key == (b.relCiphers[sub]?).map StreamCipher.key) && (b.cipherOn == a.cipherOn) &&
  (b.windows[sub]? == some { next := start, packets := [] }) && (b.queues[sub]? == some []) && (b.fragBufs[sub]? == some []) &&
  !b.eof && b.linkUp && (resendsOf a).all (fun p => !relevant sub p)

end Nx.L1
