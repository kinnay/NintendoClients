import NxProofs.MiscMii
import NxProofs.MiscCrc
import NxProofs.MiscBase64
import NxProofs.MiscAuth
import NxProofs.MiscAuthClients
import NxProofs.MiscCtr
import NxProofs.MiscCrcProd
/-!
# C19 — request authentication codes and auxiliary codecs

Models: `NxModel/Misc/Mii.lean` (MiiData build/parse over the 68-attribute layout, `swap_endian`),
`NxModel/Misc/BitStream.lean` (anynet bit streams), `NxModel/Crypto/Crc16.lean` (both CRCs),
`NxModel/Crypto/Base64.lean`, `NxModel/Misc/Auth.lean` (dauth MAC, aauth envelope, hpp, nnas, nasc, prodinfo),
`NxModel/Misc/AuthClients.lean` (HppClient / DAuthClient as objects driven through operation sequences).
Lemmas: `NxProofs/Misc*.lean`.

What is a theorem here: the inverse pairs (every encoder is inverted by its decoder; a Mii built from any
in-range attribute values parses back to the same values with a valid checksum; a wrong checksum is rejected).
Also theorems, about the references and object models themselves: the AES-CTR counter block at the carry boundaries, a request
after any history of knob changes uses the current values, `prodCrc16` (the library's table routine) = bit-serial CRC-16/ARC.
What is NOT a theorem: "the MAC / envelope / signatures / hash agree with an independent reference on every
input" — the Lean reference implementations (AES, CMAC, SHA-256, OAEP, HMAC-MD5) are compared with the library
differentially (sampled) by `harness/corr_C19.py`; a theorem cannot establish that about Python code.
-/
namespace Nx.C19
open Nx.Misc Nx.Crypto

/-! ## bit streams -/

/-- `BitStreamIn.bits(w)` after `BitStreamOut.bits(v, w)` returns `v` for every value that fits `w` bits … -/
theorem bits_roundtrip (w v : Nat) (h : v < 2 ^ w) : bitsToNat (natToBits w v) = v :=
  bitsToNat_natToBits_of_lt w v h

/-- … and `v mod 2^w` in general (the writer truncates silently) -/
theorem bits_truncate (w v : Nat) : bitsToNat (natToBits w v) = v % 2 ^ w := bitsToNat_natToBits w v

/-- the bytes `BitStreamOut.get()` returns carry exactly the bits written (byte-aligned total) -/
theorem bitstream_get_lossless (bs : Bits) (h : bs.length % 8 = 0) : unpackBits (packBits bs) = bs :=
  unpack_pack bs h

/-- generic layout lemma: for ANY list of fields, reading the layout back from what was written for in-range
    values returns the values and leaves the rest of the stream untouched -/
theorem fields_roundtrip (L : List Field) (vals : List Val) (h : ValsInRange L vals) :
    ∃ bits, encFields L vals = .ok bits ∧ ∀ rest, decFields L (bits ++ rest) = .ok (vals, rest) := by
  obtain ⟨bits, h1, _, h3⟩ := Nx.Misc.fields_roundtrip L vals h
  exact ⟨bits, h1, h3⟩

/-! ## the Mii checksum -/

/-- the stored checksum validates: `crc16 (data ++ be16 (crc16 (data ++ [0,0]))) = 0` for ALL data -/
theorem mii_crc_valid (d : Bytes) : miiCrc16 (d ++ u16be (miiCrc16 (d ++ [0, 0]))) = 0 := miiCrc16_valid d

/-- … and it is the only 16-bit trailer that does: every other value is rejected -/
theorem mii_crc_unique (d : Bytes) (x : Nat) (hx : x < 65536) :
    miiCrc16 (d ++ u16be x) = 0 ↔ x = miiCrc16 (d ++ [0, 0]) := miiCrc16_trailer_zero_iff d x hx

/-- independent reference: what `build` stores is the textbook CRC-16/XMODEM of the 0x5E data bytes -/
theorem mii_crc_is_xmodem (d : Bytes) : miiCrc16 (d ++ [0, 0]) = xmodem d := by
  unfold miiCrc16 xmodem
  rw [miiCrcFrom_append, miiCrcFrom_zero2, xmodem_fold]
  rfl

/-! ## swap_endian -/

/-- `swap_endian` undoes itself on every buffer it accepts -/
theorem swap_endian_involutive (d d' : Bytes) (h : swapEndian d = .ok d') : swapEndian d' = .ok d := by
  obtain ⟨hl, hd⟩ := of_ite_error h
  cases hd
  rw [swapEndian_of_le _ (by rw [swapRegions_length]; omega), swapRegions_invol _ _ (by omega)]

/-! ## Mii build / parse -/

/-- **a Mii built from any in-range attribute values is 0x60 bytes with a valid checksum and parses back to
    exactly those values** (names: ≤ 10 UTF-16 code units 1..0xFFFF, i.e. arbitrary BMP characters without NUL) -/
theorem mii_parse_build (vals : List Val) (h : ValsInRange miiLayout vals) :
    ∃ b, miiBuild vals = .ok b ∧ b.length = 0x60 ∧ miiCrc16 b = 0 ∧ miiParse b = .ok vals :=
  Nx.Misc.mii_parse_build vals h

/-- a Mii whose checksum field was altered is rejected with ValueError -/
theorem mii_corrupted_checksum_rejected (D : Bytes) (x : Nat) (hD : D.length = 0x5E) (hx : x < 65536)
    (hne : x ≠ miiCrc16 (D ++ [0, 0])) : miiParse (D ++ u16be x) = .error .value := by
  obtain ⟨_, _, -, hp⟩ := miiParse_of_length (D ++ u16be x) (by simp [hD, u16be])
  rw [hp, if_pos fun h0 => hne ((miiCrc16_trailer_zero_iff D x hx).mp h0)]

/-- names: up to `n` non-NUL code units survive the NUL padding and the `split("\0")[0]` -/
theorem mii_name_roundtrip (n : Nat) (cs : List Nat) (h : (Val.l cs).InRange (.wstr n)) :
    ∃ bs, encField (.wstr n) (.l cs) = .ok bs ∧ bs.length = 16 * n ∧ decField (.wstr n) bs = .l cs :=
  field_roundtrip (.wstr n) (.l cs) h

/-! ## base64 family -/

/-- `base64.b64decode(base64.b64encode(d)) == d` with CPython's *lenient* decoder, for every byte string -/
theorem b64_roundtrip (d : Bytes) : a2b (b2a d) = .ok d := a2b_b2a d

/-- url-safe alphabet (`-_`), padded -/
theorem b64url_roundtrip (d : Bytes) : b64urlDecode (b64urlEncode d) = .ok d := Nx.Crypto.b64url_roundtrip d

/-- url-safe **unpadded** form used for dauth `mac` / aauth `cert`, `cert_key`, `gvt`, decoded the way
    `device_token` decodes the challenge data (re-pad to a multiple of 4, lenient decode) -/
theorem b64url_unpadded_roundtrip (d : Bytes) : b64urlDecodeRepad (b64urlEncodeNoPad d) = .ok d :=
  b64url_nopad_roundtrip d

/-- the 3DS variant (`+/=` → `.-*`): `nasc.b64decode(nasc.b64encode(d)) == d` -/
theorem nasc_b64_roundtrip (d : Bytes) : nascDecode (nascEncode d) = .ok d := nascDecode_nascEncode d

/-- … whose output never contains `+`, `/`, `=` -/
theorem nasc_b64_form_safe (d : Bytes) : ∀ c ∈ nascEncode d, c ≠ 43 ∧ c ≠ 47 ∧ c ≠ 61 := by
  intro c hc
  obtain ⟨x, _, rfl⟩ := List.mem_map.mp hc
  unfold nascFwd
  split
  · decide
  · split
    · decide
    · split
      · decide
      · rename_i h1 h2 h3; exact ⟨h1, h2, h3⟩

/-- `nasc.decode_form(nasc.encode_form(f)) == f` for every form with byte-string values -/
theorem nasc_form_roundtrip (f : List (Bytes × Bytes)) : nascDecodeForm (nascEncodeForm f) = .ok f :=
  nascForm_roundtrip f

/-! ### every request of a call, not only the first (harness/aux_c19_wire.py)

The harness compares EVERY request a call puts on the wire with `nascEncodeForm` of the logical request. That this
comparison separates "coded once" from "coded again" for every non-empty value is a theorem: -/

/-- the 3DS coding strictly lengthens every non-empty value, so no non-empty value is its own coding … -/
theorem nasc_coding_has_no_fixed_point (d : Bytes) (h : d ≠ []) : nascEncode d ≠ d := nascEncode_ne_self d h

/-- … and a value coded twice (a request object whose form was already coded and is sent again) never equals the
    reference coding of the value -/
theorem nasc_coded_twice_differs (d : Bytes) (h : d ≠ []) : nascEncode (nascEncode d) ≠ nascEncode d :=
  nascEncode_ne_self _ (nascEncode_ne_nil d h)

/-- what the receiver of a twice-coded form recovers: the once-coded strings, not the values -/
theorem nasc_form_coded_twice_decodes_to_coded (f : List (Bytes × Bytes)) :
    nascDecodeForm (nascEncodeForm (nascEncodeForm f)) = .ok (nascEncodeForm f) :=
  nascForm_roundtrip (nascEncodeForm f)

example : nascEncode (nascEncode [0xFB, 0xFF]) = [76, 105, 48, 52, 75, 103, 42, 42] := by decide +kernel   -- ".-8*" -> "Li04Kg**"
example : nascEncode [] = [] := by decide      -- the empty value is the one fixed point (hypothesis `d ≠ []` is needed)

/-! ## calibration data, Hpp -/

/-- `ProdInfo.check` passes iff the region is present and its last two bytes are the little-endian CRC of the rest -/
theorem prodinfo_check_def (data : Bytes) (offset size : Nat) (h2 : 2 ≤ offset + size) :
    prodCheck data offset size = .ok () ↔
      offset + size ≤ data.length ∧
      prodCrc16 ((data.take (offset + size - 2)).drop offset) = rdLE data (offset + size - 2) 2 := by
  constructor
  · intro h
    obtain ⟨-, h⟩ := of_ite_error h
    obtain ⟨hl, h⟩ := of_ite_error h
    exact ⟨by omega, Decidable.not_not.mp (of_ite_error h).1⟩
  · rintro ⟨hl, hc⟩
    rw [prodCheck, if_neg (by omega), if_neg (by omega), if_neg (not_not_intro hc)]

/-- a rejected region is a ValueError (bad CRC) or a struct.error (truncated file) -/
theorem prodinfo_check_errors (data : Bytes) (offset size : Nat) (e : Err)
    (h : prodCheck data offset size = .error e) : e = .value ∨ e = .struct := by
  simp only [prodCheck] at h
  split at h
  · cases h; exact .inr rfl
  · split at h
    · cases h; exact .inr rfl
    · split at h
      · cases h; exact .inl rfl
      · cases h

/-! ### the counter of the TLS-key unwrap (`get_tls_key`: AES-CTR, the stored 16-byte block is the whole counter)

`prodTlsD` decrypts with `aesCtr`, whose block `i` is the encryption of `ctrBlock ((iv + i) mod 2^128)`. The
theorems say what that block IS at the carry boundaries (they are about the reference; that the library agrees
with it at exactly these counter blocks is the differential part: `prod-bound:tlsd` lines of the harness). -/

/-- the key stream of the reference (`AES.new(key, MODE_CTR, nonce=b"", initial_value=iv)`): block `i` is the
    encryption of the 128-bit numeral `(iv + i) mod 2^128` -/
theorem ctr_keystream_blocks (key iv data : Bytes) (w : Array Bytes) (hk : keyExpansion key = some w) (hiv : iv.length = 16) :
    aesCtr key iv data = .ok (xorB data ((List.range ((data.length + 15) / 16)).flatMap fun i =>
      encryptBlockW w (ctrBlock ((bytesToNatBE iv + i) % 2 ^ 128)))) := by
  simp [aesCtr, hk, hiv]

/-- a counter block is the 128-bit big-endian numeral, all sixteen bytes of it -/
theorem ctr_block_is_128_bit_numeral (n : Nat) : bytesToNatBE (ctrBlock n) = n % 2 ^ 128 :=
  bytesToNatBE_natToBytesBE 16 n

/-- low 64 bits of the stored block `j` short of all ones: from block `j + 1` on the UPPER half is `hi + 1` (mod 2^64)
    and the lower half restarts at 0 — the carry is not lost at the 64-bit boundary -/
theorem ctr_carry_crosses_64_bit_boundary (hi j i : Nat) (hj : j < 2 ^ 64) (hji : j < i) (hi2 : i ≤ j + 2 ^ 64) :
    bytesToNatBE ((ctrBlock ((hi * 2 ^ 64 + (2 ^ 64 - 1 - j) + i) % 2 ^ 128)).take 8) = (hi + 1) % 2 ^ 64 ∧
    bytesToNatBE ((ctrBlock ((hi * 2 ^ 64 + (2 ^ 64 - 1 - j) + i) % 2 ^ 128)).drop 8) = i - j - 1 := by
  rw [ctrBlock_high_half, ctrBlock_low_half, show hi * 2 ^ 64 + (2 ^ 64 - 1 - j) + i = (hi + 1) * 2 ^ 64 + (i - j - 1) by omega]
  exact two_digits (2 ^ 64) (hi + 1) (i - j - 1) (by omega)

/-- … and up to block `j` the upper half is the stored one -/
theorem ctr_upper_half_before_carry (hi j i : Nat) (hhi : hi < 2 ^ 64) (hj : j < 2 ^ 64) (hij : i ≤ j) :
    bytesToNatBE ((ctrBlock ((hi * 2 ^ 64 + (2 ^ 64 - 1 - j) + i) % 2 ^ 128)).take 8) = hi := by
  rw [ctrBlock_high_half, Nat.add_assoc]
  exact (two_digits (2 ^ 64) hi _ (by omega)).1.trans (Nat.mod_eq_of_lt hhi)

-- stored block 00..05 | ff..f8: block 8 is 00..06 | 00..00 (a 64-bit counter behind a fixed prefix would give 00..05 | 00..00)
example : ctrBlock ((bytesToNatBE [0,0,0,0,0,0,0,5, 255,255,255,255,255,255,255,248] + 8) % 2 ^ 128)
    = [0,0,0,0,0,0,0,6, 0,0,0,0,0,0,0,0] := by decide +kernel
-- all ones wraps to all zero
example : ctrBlock ((bytesToNatBE (List.replicate 16 255) + 1) % 2 ^ 128) = List.replicate 16 0 := by decide +kernel
example : ctrBlock ((bytesToNatBE [0,0,0,0,0,0,0,0, 0,0,0,0,0,0,255,255] + 1) % 2 ^ 128)
    = [0,0,0,0,0,0,0,0, 0,0,0,0,0,1,0,0] := by decide +kernel

/-- an Hpp success response is accepted only if it carries the size of what follows, the call id of the request
    and `method | 0x8000`; the body handed back is what follows that header -/
theorem hpp_response_accepted (callId method : Nat) (resp body : Bytes)
    (h : hppValidate callId method resp = .body body) :
    ∃ size s1 flag s2 s3 s4, rdU32 resp = .ok (size, s1) ∧ size = s1.length ∧ rdU8 s1 = .ok (flag, s2) ∧ flag ≠ 0 ∧
      rdU32 s2 = .ok (callId, s3) ∧ rdU32 s3 = .ok (method ||| 0x8000, s4) ∧ body = s4 :=
  (hppValidate_eq_body_iff callId method resp body).mp h

/-! ## one client object, a sequence of operations

The authentication codes above are functions of their inputs; the library's clients are objects whose inputs are
knobs (the shared `Settings` object, `pid`, `password`, the `keys` dict, the system version, …) that may be turned
between two requests. The object models read every knob at request time, as `hpp.py` / `dauth.py` do; the harness
drives ONE real object and the model through the same sequence (`hpp-walk`, `dauth-walk`) and compares every request.
What the theorems add: in the model a request after ANY history is authenticated with the current values. -/

/-- the request issued after an arbitrary history of knob changes and earlier requests carries the signatures
    for the access key / password / pid the client has NOW, the current call id, and advances the counter mod 2^32 -/
theorem hpp_request_after_any_history (c : HppClient) (ops : List HppOp) (data : Bytes) :
    hppRun c (ops ++ [.request data]) =
      ({ (hppRun c ops).1 with callId := ((hppRun c ops).1.callId + 1) % 2 ^ 32 },
       (hppRun c ops).2 ++ [hppSend (hppRun c ops).1 data]) :=
  hppRun_snoc c ops (.request data)

/-- … which is exactly what a freshly constructed client with those values, its call-id counter put to the same value, sends -/
theorem hpp_reused_client_eq_fresh (c : HppClient) (ops : List HppOp) (data : Bytes) :
    hppSend (hppRun c ops).1 data =
      hppSend { HppClient.fresh (hppRun c ops).1.accessKey (hppRun c ops).1.password (hppRun c ops).1.pid with
                callId := (hppRun c ops).1.callId } data :=
  hppSend_eq_fresh _ data

/-- the last write to a knob is the value in force (the other knobs keep theirs) -/
theorem hpp_last_write_wins (c : HppClient) (ops : List HppOp) (k p : Bytes) (n : Nat) :
    (hppRun c (ops ++ [.setAccessKey k])).1 = { (hppRun c ops).1 with accessKey := k } ∧
    (hppRun c (ops ++ [.setPassword p])).1 = { (hppRun c ops).1 with password := p } ∧
    (hppRun c (ops ++ [.setPid n])).1 = { (hppRun c ops).1 with pid := n } :=
  ⟨congrArg Prod.fst (hppRun_snoc c ops (.setAccessKey k)), congrArg Prod.fst (hppRun_snoc c ops (.setPassword p)),
    congrArg Prod.fst (hppRun_snoc c ops (.setPid n))⟩

/-- `keys[name] = value` is seen by the next lookup of `name` and by no other lookup -/
theorem dict_last_write_wins (d : Dict) (k k' v : Bytes) :
    dictGet (dictSet d k v) k = .ok v ∧ (k' ≠ k → dictGet (dictSet d k v) k' = dictGet d k') :=
  ⟨dictGet_dictSet_same d k v, dictGet_dictSet_other d k k' v⟩

/-- a token request after an arbitrary history is answered from the current state of the DAuthClient -/
theorem dauth_token_after_any_history (c : DAuthClient) (ops : List DAuthOp) (e : Bool) (ch : Bytes)
    (dt : List Nat) (cid : Nat) (v : Bytes) :
    dauthRun c (ops ++ [.token e ch dt cid v]) =
      ((dauthRun c ops).1, (dauthRun c ops).2 ++ [.token ((dauthRun c ops).1.token e ch dt cid v)]) :=
  dauthRun_snoc c ops (.token e ch dt cid v)

/-- after `set_system_version` the MAC comes from the master key of the NEW key generation -/
theorem dauth_mac_follows_version_switch (c : DAuthClient) (g : Nat) (d : Bytes) (a : Bool) (form data kek mk : Bytes)
    (h1 : dictGet c.keys (ascii "aes_kek_generation_source") = .ok kek)
    (h2 : dictGet c.keys (masterKeyName g) = .ok mk) :
    (dauthRun c [.setVersion g d a, .mac form data]).2 = [.mac (dauthMac kek mk data form)] :=
  congrArg (fun r => [DAuthOut.mac r]) (DAuthClient.mac_eq { c with keygen := g, digest := d, api7 := a } _ _ _ _ h1 h2)

/-- after the master key in use is replaced in the dict the MAC comes from the NEW key -/
theorem dauth_mac_follows_key_replacement (c : DAuthClient) (mk form data kek : Bytes)
    (h1 : dictGet c.keys (ascii "aes_kek_generation_source") = .ok kek) :
    (dauthRun c [.setKey (masterKeyName c.keygen) mk, .mac form data]).2 = [.mac (dauthMac kek mk data form)] :=
  congrArg (fun r => [DAuthOut.mac r]) (DAuthClient.mac_eq { c with keys := dictSet c.keys (masterKeyName c.keygen) mk } _ _ _ _
    ((dictGet_dictSet_other _ _ _ _ (kekName_ne_masterKeyName c.keygen)).trans h1) (dictGet_dictSet_same ..))

example : (hppRun (HppClient.fresh [1] [2] 3) [.request [9], .setPid 7, .setCallId (2 ^ 32 - 1), .request [9]]).1
    = ⟨[1], [2], 7, 0⟩ := by decide +kernel
example : dictGet (dictSet [([1], [2]), ([3], [4])] [3] [5]) [3] = .ok [5] := by decide +kernel
example : dictGet (dictSet [([1], [2])] [3] [5]) [1] = .ok [2] := by decide +kernel
example : dictGet ([] : Dict) [1] = .error .key := by decide
example : dictGet [(ascii "aes_kek_generation_source", [7])] (ascii "aes_kek_generation_source") = .ok [7] := by decide +kernel

/-
NOT theorems (stated here so the gap is visible): "`dauthMac`, `aauthEnvelope`, `hppSignatures`, `nnasHash`
agree with an independent reference on every input". In Lean these functions ARE the independent
reference implementations (AES/CMAC/SHA-256/OAEP written from FIPS-197, RFC 4493, FIPS 180-4, RFC 8017,
validated on the published vectors and on the three request snapshots of tests/switch/test_dauth.py in the
driver self-test); their agreement with the Python library is established differentially by
harness/corr_C19.py on generated inputs (sampled, not exhaustive). `prodCrc16` is different: it transcribes the library's table
routine, and its agreement with the independent bit-serial definition IS a theorem (`prod_crc_is_crc16_arc` below).
-/

/-- **the calibration-data checksum is CRC-16/ARC, for every input.** The model of `nintendo.switch.crc16` (two 4-bit table
    steps per byte, the table entries of the register's low nibble and of the data nibble xored separately — tied to the
    code by the correspondence and by the ast-extracted table obligation) equals the bit-serial textbook definition
    (reflected polynomial 0xA001, start value 0x55AA) on every byte string: the bit step is GF(2)-linear and the table holds
    the four-step images of the sixteen nibbles. -/
theorem prod_crc_is_crc16_arc (d : Bytes) : prodCrc16 d = refCrc16Arc 0x55AA d := prodCrc16_eq_ref d

/-- one byte of the routine = eight bit steps on `register xor byte`, for every register value (not only 16-bit ones) -/
theorem prod_crc_byte_step (h : Nat) (b : UInt8) : prodStep h b = refByte h b := prodStep_eq_refByte h b

example : prodCrc16 [0x31, 0x32, 0x33, 0x34, 0x35, 0x36, 0x37, 0x38, 0x39] = refCrc16Arc 0x55AA [0x31, 0x32, 0x33, 0x34, 0x35, 0x36, 0x37, 0x38, 0x39] ∧
    refCrc16Arc 0 [0x31, 0x32, 0x33, 0x34, 0x35, 0x36, 0x37, 0x38, 0x39] = 0xBB3D := by decide +kernel   -- the CRC-16/ARC check value

/-! the base64 family at the two bytes whose coding uses both variant characters and a pad (`+/=`, `.-*`, `-_`) -/
example : a2b (b2a [0xFB, 0xFF]) = .ok [0xFB, 0xFF] := by decide +kernel
example : nascEncode [0xFB, 0xFF] = [46, 45, 56, 42] := by decide +kernel      -- ".-8*"
example : b64urlEncodeNoPad [0xFB, 0xFF] = [45, 95, 56] := by decide +kernel   -- "-_8"
/-! both sides of `prodinfo_check_def` on a 5-byte region: the right trailer passes, a wrong one is the `ValueError` of `prodinfo_check_errors` -/
example : prodCheck [1, 2, 3, 15, 209] 0 5 = .ok () := by decide +kernel
example : prodCheck [1, 2, 3, 15, 208] 0 5 = .error .value := by decide +kernel
/-! the hypotheses of `fields_roundtrip` and `mii_name_roundtrip` can be met, also by 0xFFFF and a lone surrogate; a NUL inside a name is out of range -/
example : ValsInRange [⟨"a", .bits 4⟩, ⟨"n", .wstr 3⟩, ⟨"f", .flagBits 5⟩] [.n 15, .l [0xFFFF, 0xD800], .n 1] := by decide +kernel
example : (Val.l [0x3042, 1, 0xFFFF]).InRange (.wstr 10) := by decide +kernel
example : ¬ (Val.l [65, 0, 66]).InRange (.wstr 10) := by decide +kernel
/-! `mii_crc_valid` at a point; there the zero trailer does not validate (`mii_crc_unique`), so the stored checksum matters -/
example : miiCrc16 ([1, 2, 3] ++ u16be (miiCrc16 ([1, 2, 3] ++ [0, 0]))) = 0 := by decide +kernel
example : miiCrc16 ([1, 2, 3] ++ [0, 0]) ≠ 0 := by decide +kernel

end Nx.C19
