import NxProofs.PrudpV0
import NxProofs.PrudpV1
import NxProofs.PrudpPayload
import NxProofs.Crypto
import NxProofs.CryptoAgree
import NxModel.Crypto.Inflate
/-!
# C08 — PRUDP bytes on the wire match the protocol specification

**Partial by nature.** "Equals the published protocol" is a claim about prudp.py versus an independent description; a
theorem cannot establish it about Python code. What Lean contributes is the *fixed, executable reference*
(`NxModel/Prudp/{V0,V1,Lite,Options}.lean` for headers, option blocks and checksums; `Sig.lean` for v0/v1/lite packet and
connection signatures; `Payload.lean` for the substream key chain, unreliable keys, RC4 with running position, zlib
framing with the ratio byte, Kerberos envelope, connection request/response) and the theorems below showing that the
reference is internally consistent: what it emits, it accepts and decodes to the same fields; its key chain, ratio byte
and layouts are what the description says. The agreement of prudp.py / kerberos.py with the reference is differential
(`harness/corr_C08.py`, both directions), sampled and exhaustive on the small axes.
-/
namespace Nx.C08
open Nx.Prudp Nx.Crypto

/-! ## key schedule -/

/-- the cipher key of substream `i` is `modify_key` applied `i` times to the session key, for every substream -/
theorem substream_keys_chain (key : Bytes) (maxSubstream i : Nat) (h : i ≤ maxSubstream) :
    (substreamKeys key maxSubstream)[i]? = some (modifyKeyN i key) := by
  cases i with
  | zero => rfl
  | succ i => exact substreamKeysFrom_get maxSubstream key i (by omega)

theorem substream_keys_count (key : Bytes) (maxSubstream : Nat) : (substreamKeys key maxSubstream).length = maxSubstream + 1 := by
  rw [substreamKeys, List.length_cons, substreamKeysFrom_length]

/-- `modify_key`: byte `j` of the first half becomes `key[j] + (len/2 + 1) - j` mod 256, the second half is unchanged
    (the length is kept, `modify_key_length`, so every derived key is as acceptable to RC4 as the session key) -/
theorem modify_key_def (k : Bytes) (j : Nat) :
    (modifyKey k)[j]? = k[j]?.map (fun x => if j < k.length / 2 then b8 (x.toNat + (k.length / 2 + 1) - j) else x) :=
  by rw [modifyKey, modifyKeyAux_get]; simp

theorem modify_key_length (k : Bytes) : (modifyKey k).length = k.length := modifyKeyAux_length _ _ _ _

/-- per-packet key of unreliable DATA: byte 0 += sequence id, byte 1 += sequence id >> 8, byte 31 += session id
    (all mod 256) of the 32-byte key derived from the session key; nothing else changes -/
theorem unreliable_key_def (k : Bytes) (packetId sessionId j : Nat) :
    (makeUnreliableKey k packetId sessionId)[j]? =
      if j = 0 then k[j]?.map (fun x => b8 (x.toNat + packetId))
      else if j = 1 then k[j]?.map (fun x => b8 (x.toNat + packetId / 256))
      else if j = 31 then k[j]?.map (fun x => b8 (x.toNat + sessionId))
      else k[j]? := by
  unfold makeUnreliableKey
  rw [addAt_get, addAt_get, addAt_get]
  by_cases h0 : j = 0
  · subst h0; simp
  · by_cases h1 : j = 1
    · subst h1; simp
    · by_cases h31 : j = 31
      · subst h31; simp
      · simp [h0, h1, h31]

theorem unreliable_key_length (k : Bytes) (packetId sessionId : Nat) :
    (makeUnreliableKey k packetId sessionId).length = k.length := by
  simp [makeUnreliableKey, addAt_length]

theorem unreliable_base_key_length (sessionKey : Bytes) : (initUnreliableKey sessionKey).length = 32 := by
  simp [initUnreliableKey, md5_length]

/-! ## stream cipher: encryption and decryption started from the same state stay in step -/

theorem rc4_decrypt_encrypt (x : Bytes) (st : Rc4) :
    (rc4Apply st (rc4Apply st x).1).1 = x ∧ (rc4Apply st (rc4Apply st x).1).2 = (rc4Apply st x).2 :=
  rc4Apply_involutive x st

/-! ## compression framing -/

/-- the ratio byte is `len(data) / len(compressed) + 1` (integer division) where that fits a byte; the code's float
    expression `int(a / b + 1)` equals it for sizes far below 2^24 (argued in DESIGN §5 C08, compared at the boundaries
    by the harness) -/
theorem ratio_byte_def (data z : Bytes) (hz : z ≠ []) (hr : data.length / z.length + 1 < 256) :
    compressFrame data z = .ok (u8 (data.length / z.length + 1) ++ z) := by
  have : z.length ≠ 0 := by simpa using hz
  unfold compressFrame
  rw [if_neg this, if_neg (by omega)]

/-- emitted framing is accepted (zlib's own inverse is the oracle `some data`) -/
theorem compression_framing_roundtrip (data z : Bytes) (hz : z ≠ []) (hr : data.length / z.length + 1 < 256) :
    (compressFrame data z).bind (fun f => decompressFrame f (some data)) = .ok data := by
  have hl : z.length ≠ 0 := by simpa using hz
  rw [ratio_byte_def data z hz hr]
  simp only [Except.bind, u8, List.cons_append, List.nil_append, decompressFrame, b8_toNat, Nat.mod_eq_of_lt hr]
  simp [hl]

/-- ratio byte 0: the body is stored as it is, and zlib is not consulted -/
theorem compression_stored (body : Bytes) (inf : Option Bytes) : decompressFrame (0 :: body) inf = .ok body := by
  simp [decompressFrame]

/-! ## Kerberos envelope and the connection request / response -/

theorem kerberos_envelope_roundtrip (key data : Bytes) (h : 0 < key.length ∧ key.length ≤ 256) :
    (kerbEncrypt key data).bind (kerbDecrypt key) = .ok data := by
  unfold kerbEncrypt
  simp only [Except.bind]
  unfold kerbDecrypt
  have hl : ((rc4Apply (rc4Ksa key) data).1 ++ hmacMd5 key (rc4Apply (rc4Ksa key) data).1).length - 16 =
      (rc4Apply (rc4Ksa key) data).1.length := by simp [hmacMd5_length]
  simp only [hl, List.take_left', List.drop_left', ne_eq, not_true_eq_false, if_false, rc4New_ok h]
  rw [(rc4Apply_involutive data (rc4Ksa key)).1]

theorem kerberos_envelope_reject (key buffer : Bytes)
    (h : buffer.drop (buffer.length - 16) ≠ hmacMd5 key (buffer.take (buffer.length - 16))) :
    kerbDecrypt key buffer = .error .value := by
  unfold kerbDecrypt; simp [h]

/-- CONNECT payload: `u32 |ticket| ‖ ticket ‖ u32 (|pid|+8+16) ‖ RC4(session key, pid ‖ cid ‖ check) ‖ HMAC-MD5` -/
theorem connreq_layout (pidSize pid cid check : Nat) (sk ticket : Bytes)
    (hk : 0 < sk.length ∧ sk.length ≤ 256) (ht : ticket.length < 4294967296)
    (hp : if pidSize = 8 then pid < 18446744073709551616 else pid < 4294967296)
    (hc : cid < 4294967296) (hch : check < 4294967296) :
    buildConnectionRequest pidSize pid cid check sk ticket =
      .ok (u32le ticket.length ++ ticket ++
           (u32le ((if pidSize = 8 then 8 else 4) + 8 + 16) ++
            (rc4 sk (connectionRequestBody pidSize pid cid check) ++
             hmacMd5 sk (rc4 sk (connectionRequestBody pidSize pid cid check))))) := by
  unfold buildConnectionRequest
  rw [if_neg (by omega)]
  have : ¬ (if pidSize = 8 then pid ≥ 18446744073709551616 else pid ≥ 4294967296) := by
    by_cases h8 : pidSize = 8
    · rw [if_pos h8] at hp ⊢; omega
    · rw [if_neg h8] at hp ⊢; omega
  rw [if_neg this, if_neg (by omega)]
  unfold kerbEncrypt
  rw [rc4New_ok hk]
  simp only [nexBuffer, rc4, List.length_append, hmacMd5_length, List.append_assoc]
  rw [rc4Apply_length, connectionRequestBody_length]

/-- the client accepts exactly the server's answer `u32 4 ‖ u32 (check + 1 mod 2^32)` and nothing else -/
theorem connresp_accept_iff (check : Nat) (data : Bytes) :
    checkConnectionResponse (some check) data = .ok () ↔ data = connectionResponse check := by
  unfold checkConnectionResponse connectionResponse
  -- the three tests of the code are the three conjuncts of `eq_u32le_append_iff`
  simp only [ne_eq, ite_not, ite_ite_and, ← eq_u32le_append_iff (x := 4) (by decide) (Nat.mod_lt _ (by decide))]
  exact ⟨fun h => (ite_ok h).1, fun h => if_pos h⟩

theorem connresp_anonymous_iff (data : Bytes) : checkConnectionResponse none data = .ok () ↔ data = [] := by
  unfold checkConnectionResponse; cases data <;> simp

/-! ## datagrams signed and encoded by the reference are decoded to the same fields (reference side of
"bytes produced by that implementation are accepted"; the real decoder's side is the reverse differential run) -/

theorem v1_signature_size (key : Bytes) (p : Packet) (sk cs : Bytes) : (v1PacketSignature key p sk cs).length = 16 :=
  hmacMd5_length _ _

theorem v0_signature_size (c : V0Cfg) (p : Packet) (sk cs : Bytes) (hcs : cs = [] ∨ cs.length = 4) :
    (v0PacketSignature c p sk cs).length = 4 := by
  have hd : (v0DataSignature c p sk).length = 4 := by
    unfold v0DataSignature
    -- what is signed does not matter; as a variable it also keeps `split` off the `if` inside it
    generalize (if c.signatureVersion = 0 then _ else p.payload) = data
    simp only []
    split
    · rfl
    · rfl
  unfold v0PacketSignature
  split; · exact hd
  split; · exact hd
  rcases hcs with rfl | h
  · rfl
  · split
    · exact h
    · rfl

theorem v1_reference_datagram_accepted (key : Bytes) (p : Packet) (sk cs : Bytes) (h : V1WF p) :
    v1Decode (v1Emit key p sk cs) = .ok [{ p with signature := some (v1PacketSignature key p sk cs) }] :=
  v1Decode_encode _ (V1WF_setSig p _ h (congrArg some (v1_signature_size key p sk cs)))

theorem v0_reference_datagram_accepted (c : V0Cfg) (p : Packet) (sk cs : Bytes) (h : V0WF c p)
    (hcs : cs = [] ∨ cs.length = 4) :
    v0Decode c (v0Emit c p sk cs) = .ok [{ p with signature := some (v0PacketSignature c p sk cs) }] :=
  v0Decode_encode c _ (V0WF_setSig c p _ h (v0_signature_size c p sk cs hcs))

/-! ## non-vacuity and fixed vectors (the reference's constants cannot drift unnoticed) -/

example : modifyKey [1, 2, 3, 4, 5] = [4, 4, 3, 4, 5] := by decide +kernel
example : (substreamKeys [10, 20, 30, 40] 3).length = 4 := by decide +kernel
example : (substreamKeys [10, 20, 30, 40] 2)[2]? = some (modifyKey (modifyKey [10, 20, 30, 40])) := by decide +kernel
example : makeUnreliableKey (List.replicate 32 0xFF) 0x1234 0x02 =
    [0x33, 0x11] ++ List.replicate 29 0xFF ++ [0x01] := by decide +kernel
example : compressFrame (List.replicate 100 0) [1, 2, 3, 4, 5, 6, 7, 8, 9, 10, 11] = .ok (10 :: [1, 2, 3, 4, 5, 6, 7, 8, 9, 10, 11]) := by
  decide +kernel
example : checkConnectionResponse (some 0xFFFFFFFF) [4, 0, 0, 0, 0, 0, 0, 0] = .ok () := by decide +kernel
example : checkConnectionResponse (some 5) [4, 0, 0, 0, 5, 0, 0, 0] = .error .value := by decide +kernel
example : v1SigKey.length = 15 := by decide +kernel
example : DEFAULT_KEY = [67, 68, 38, 77, 76] := by decide +kernel
-- the second conjunct is the hypothesis of `kerberos_envelope_roundtrip` and `connreq_layout` at a 16-byte key; as it
-- stands the statement mentions no definition of the development and witnesses nothing
example : (1 : Nat) < 16 ∧ (0 < (16 : Nat) ∧ (16 : Nat) ≤ 256) := by decide

/-! ## the endpoint model signs with the reference

The L1 endpoint model (`NxModel/Prudp/Conn.lean`, replayed byte- and tick-exactly against real sessions by C01/C02/C04–C07)
gets its signature functions from `L1Crypto.lean`, written separately from `Sig.lean`. They are the same functions, so
every datagram of every replayed session is also a datagram recomputed by this reference (DESIGN §5 C08, Tie (a)). -/

theorem l1_signs_with_reference (v0 : V0Cfg) (p : Packet) (sk cs : Bytes) :
    L1.packetSigFn v0 .v0 p sk cs = some (v0PacketSignature v0 p sk cs) ∧
    L1.packetSigFn v0 .v1 p sk cs = some (v1PacketSignature v0.accessKey p sk cs) ∧
    L1.packetSigFn v0 .lite p sk cs = litePacketSignature v0.accessKey p cs :=
  ⟨by simp [L1.packetSigFn, L1.v0PacketSig_agree], by simp [L1.packetSigFn, L1.v1PacketSig_agree],
    by simp [L1.packetSigFn, L1.litePacketSig_agree]⟩

theorem l1_connection_signatures_are_reference (a : L1.Addr) :
    L1.connSigFn .v0 a = v0ConnectionSignature (L1.inetAton a.1) a.2 ∧
    L1.connSigFn .v1 a = v1ConnectionSignature (L1.inetAton a.1) a.2 ∧
    L1.connSigFn .lite a = liteConnectionSignature (L1.inetAton a.1) a.2 :=
  ⟨rfl, rfl, rfl⟩

theorem l1_unreliable_base_key_is_reference (key : Bytes) : L1.initUnreliableKey key = initUnreliableKey key := rfl

/-! ### the reference's inflater (RFC 1950 / 1951, `NxModel/Crypto/Inflate.lean`) on published-format streams

These are TESTS (closed examples evaluated by the kernel), not a theorem about all streams: a stored block as zlib itself
emits it and a damaged header; the Huffman paths are left to the compiled driver (`Driver/C08.lean`). The agreement with
`zlib.decompress` on arbitrary streams is established differentially on every run (valid streams of every level / strategy /
window size / flush mode; truncated, bit-flipped, re-headed and over-long ones). -/
example : Crypto.zlibDecompress [120, 1, 1, 5, 0, 250, 255, 104, 101, 108, 108, 111, 6, 44, 2, 21] = some [104, 101, 108, 108, 111] := by decide +kernel
example : Crypto.zlibDecompress [120, 219, 203, 72, 205, 201, 201, 7, 0, 6, 44, 2, 21] = none := by decide +kernel   -- header check fails

end Nx.C08
