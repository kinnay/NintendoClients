import NxProps.C13
import NxProofs.Rmc
import NxProps.C10
import NxProofs.Channel
import NxProofs.Cipher
import NxProps.C06
import NxModel.Nex.C14Wire
import NxProofs.C14Str
import NxProofs.Sys
import NxProofs.Duplex
import NxProofs.HandshakeAcks
/-!
# C14 — values survive a client → server → client round trip through any generated method

Model: the schema interpreter of C13 (`NxModel/Nex/Schema.lean`) composed with the RMC framing of C09
(`NxModel/Nex/Rmc.lean`). The PRUDP layer underneath is C01's subject; here a message handed to the RMC layer
is the message the peer's RMC layer receives. The two legs of a call are C13's `request_layout` / `response_layout` under
the RMC framing.
Several calls in flight at once on one connection: which response a caller is handed is decided by the call-matching
machine of `NxModel/Nex/RmcClient.lean` (C10's model, `NxProofs/RmcClient.lean`); `rpc_concurrent_own_result`
composes it with the response leg.

Over the real transport: an RMC message is one application message of the PRUDP channel of C01
(`NxModel/Prudp/Channel.lean`: fragmentation, position-indexed cipher, sliding window; the network is ANY list of arrivals —
loss, duplication, reordering). `rpc_request_over_faulty_network` / `rpc_response_over_faulty_network` compose the channel's
safety invariant with the two legs: whatever the network did, the k-th message the receiving RMC layer is handed is the k-th
message sent, so it decodes to the visible values of the k-th call — for every call of a connection, not only the first.
Which codec configuration (structure headers) each end uses follows from the minor version its endpoint reports after the
handshake (`NxModel/Nex/C14Wire.lean`); `both_ends_same_codec` and `negotiated_minor_is_handshake` tie that to C06's L1 lemmas.

`forward_compat` needs "revisions ascending" — for every `nex.version` the number the generated `max_version`
returns bounds every reachable `revision` block (`Items.revAscending`, a kernel-checked generated obligation per
versioned structure). It FAILS on the repository's definition of `MatchmakeSession` (`revision 1,2,3` followed by `nex 40000 { revision 0 }`:
from NEX 4.0 on `max_version` is 0 although revision-1..3 blocks are reachable); `forward_compat_counterexample`
proves the negation on the same shape, the check reproduces it on the real class (known finding).
-/
namespace Nx.C14
open Nx.Schema

/-- **forward compatibility**, one hierarchy level, any hooks: with structure headers on, and `ver` — the revision the level
    was written with — bounding every reachable `revision` block (`hb`; for `max_version` that is what
    `revisions_ascending_sound` gives), a header announcing any revision `v' ≥ ver` and any bytes `x` appended *inside* the
    length-prefixed body decode to the same attributes, and the rest of the message is untouched -/
theorem forward_compat (env : Env) (cfg : Cfg) (ver : Nat) (leaf : Items × List Val) (d : StructDef)
    {E : EncHook} {D : DecHook} {V : VisHook} (H : HookRT E D V) (hh : cfg.structHeader = true)
    (vs vs' : List Val) (b : Bytes) (henc : encClass E env cfg ver leaf d vs = .ok (b, vs'))
    (hb : revsBelow ver cfg.nexVersion d.items = true) :
    ∃ body, b = u8 ver ++ u32le body.length ++ body ∧
      ∀ (v' : Nat) (x r : Bytes), ver ≤ v' → v' < 256 → body.length + x.length < 4294967296 →
        decClass D env cfg d (u8 v' ++ u32le (body.length + x.length) ++ (body ++ x) ++ r)
          = .ok ((visItems V cfg ver d.items vs).1, r) := by
  obtain ⟨body, hbody, _, _, rfl⟩ := encClass_header hh henc
  refine ⟨body, rfl, ?_⟩
  intro v' x r hv hv' hl
  have := decClass_header D env cfg d hh v' hv' (body ++ x) r (by rw [List.length_append]; exact hl)
  rw [List.length_append] at this
  rw [this, decItems_ver D env cfg hv d.items (body ++ x) hb]
  obtain ⟨h1, _⟩ := encItems_rt env cfg ver H d.items vs body vs' x hbody
  rw [h1]

/-- the generated obligation `rev_ascending_<Struct>` gives the hypothesis of `forward_compat` for every
    `nex.version` at once (only the gate thresholds are enumerated by the checker) -/
theorem revisions_ascending_sound {it : Items} (h : it.revAscending = true) (nex : Nat) :
    revsBelow (maxVersion nex it) nex it = true ∧ maxVersion nex it < 256 :=
  revAscending_sound h nex

/-- forward compatibility of a whole instance of a structure without base class whose revisions ascend (`hasc`), as
    `Structure.encode` / `Structure.decode` see it with structure headers on. The versioned structures of the definitions
    are of this kind except `MatchmakeSession`, which has a base class and whose revisions do not ascend: `forward_compat`
    covers its own level only where `revsBelow` holds, that is below NEX 4.0 (see the header) -/
theorem forward_compat_struct (env : Env) (cfg : Cfg) (f : Nat) (c : Name) (d : StructDef)
    (hl : lookup env c = some d) (hp : d.parent = none) (hh : cfg.structHeader = true)
    (hasc : d.items.revAscending = true) (vs vs' : List Val) (b : Bytes)
    (henc : encObj env cfg (f + 1) c vs = .ok (b, vs')) :
    ∃ body, b = u8 (effMaxVersion env cfg.nexVersion (f + 1) c) ++ u32le body.length ++ body ∧
      ∀ (v' : Nat) (x r : Bytes), effMaxVersion env cfg.nexVersion (f + 1) c ≤ v' → v' < 256 →
        body.length + x.length < 4294967296 →
        decObj env cfg (f + 1) c (u8 v' ++ u32le (body.length + x.length) ++ (body ++ x) ++ r)
          = .ok ((visObj env cfg (f + 1) c vs).1, r) := by
  have hb : revsBelow (effMaxVersion env cfg.nexVersion (f + 1) c) cfg.nexVersion d.items = true := by
    rw [effMaxVersion_root hl hp]
    cases hr : d.items.hasRev with
    | true => simp only [if_true]; exact (revisions_ascending_sound hasc cfg.nexVersion).1
    | false => exact revsBelow_of_noRev _ _ _ hr
  simp only [encObj, encGo, hl, hp] at henc
  obtain ⟨cb, vs2, hcb, henc⟩ := match_pair_ok henc
  cases henc
  obtain ⟨body, hbody, hfc⟩ := forward_compat env cfg _ _ d (hookRT_fuel env cfg f) hh vs vs' cb hcb hb
  refine ⟨body, by simpa using hbody, fun v' x r h1 h2 h3 => ?_⟩
  simp only [decObj, visObj, hl, hp, hh, if_true, hfc v' x r h1 h2 h3, List.nil_append]

/-- without ascending revisions the property is false: the shape of `MatchmakeSession` at NEX 4.0 writes
    revision 0; the same bytes announced as revision 1 with one trailing byte no longer decode -/
theorem forward_compat_counterexample :
    Ex.session.items.revAscending = false
    ∧ encObj Ex.env Ex.cfgNew 8 77 [.int 7, .str [0x41], .list [.int 1], .int 99, .str [0x42]]
        = .ok ([0, 8, 0, 0, 0, 7, 0, 0, 0, 2, 0, 65, 0] ++ ([0, 9, 0, 0, 0] ++ [1, 0, 0, 0, 1, 2, 0, 66, 0]), [])
    ∧ decObj Ex.env Ex.cfgNew 8 77
        ([0, 8, 0, 0, 0, 7, 0, 0, 0, 2, 0, 65, 0] ++ ([1, 10, 0, 0, 0] ++ ([1, 0, 0, 0, 1, 2, 0, 66, 0] ++ [0xAA])) ++ [9])
        = .error .overflow := by
  refine ⟨by decide, by rfl, by rfl⟩

/-- request leg: what the generated client hands to the RMC layer, framed, parsed by the peer's RMC layer and
    decoded by the generated server, is the visible argument list — with the protocol id, method id and call id
    it was sent with -/
theorem rpc_roundtrip_request {env : Env} {cfg : Cfg} {fuel : Nat} {p : ProtoDef} {m : MethodDef} {args : List Val}
    {pi mi : Nat} {body : Bytes} (h : clientRequest env cfg fuel p m args = .ok (pi, mi, body))
    (callId : Nat) (hwf : (Rmc.Spec.request pi callId mi body).WF) :
    ∃ wire msg, Rmc.encode (Rmc.ofSpec (.request pi callId mi body)) = .ok wire ∧ Rmc.decode wire = .ok msg
      ∧ msg.mode = 0 ∧ msg.protocol = p.id ∧ msg.method = some m.id ∧ msg.callId = callId
      ∧ serverRequest env cfg fuel m msg.body = .ok (visArgs env cfg fuel m.request args) := by
  obtain ⟨h1, h2, _, h4⟩ := C13.request_layout h []
  refine ⟨_, _, Rmc.encode_ofSpec _ hwf, Rmc.decode_specEncode _ hwf, rfl, h1, by rw [← h2]; rfl, rfl, ?_⟩
  simpa [Rmc.ofSpec] using h4

/-- response leg: what the generated server wrote, framed as a success response and parsed by the caller's RMC
    layer, is decoded by the generated client to the visible results (and the call id is the request's) -/
theorem rpc_roundtrip_response {env : Env} {cfg : Cfg} {fuel : Nat} {m : MethodDef} {res : List Val} {body : Bytes}
    (h : serverResponse env cfg fuel m res = .ok body) (protocol callId : Nat)
    (hwf : (Rmc.Spec.success protocol callId m.id body).WF) :
    ∃ wire msg, Rmc.encode (Rmc.ofSpec (.success protocol callId m.id body)) = .ok wire ∧ Rmc.decode wire = .ok msg
      ∧ msg.mode = 1 ∧ msg.callId = callId ∧ msg.error = -1
      ∧ clientResponse env cfg fuel m msg.body = .ok (visArgs env cfg fuel m.response res) := by
  refine ⟨_, _, Rmc.encode_ofSpec _ hwf, Rmc.decode_specEncode _ hwf, rfl, rfl, rfl, ?_⟩
  exact (C13.response_layout h).2.1

/-- **several calls in flight on one connection**: `ops` is ANY interleaving of `request()` sections, received
    datagrams, closures and resumptions of suspended callers on one `RMCClient` (fewer than 2^32 − 1 calls, so that
    the wrapping call id counter cannot collide). If every response that carries a call id under which caller `t`'s
    request went out is the server's answer to that request (success, body = what the generated server wrote for the
    values `res` its implementation returned for `t`'s arguments), then `t`, when it completes, is told "closed",
    or was response-less, or is handed exactly that body — whatever the other callers sent and received in between —
    and the generated client decodes it to the visible results `res` -/
theorem rpc_concurrent_own_result {env : Env} {cfg : Cfg} {fuel : Nat} {m : MethodDef} {res : List Val} {body : Bytes}
    (h : serverResponse env cfg fuel m res = .ok body)
    (ops : List RmcClient.Op) (hn : RmcClient.nCalls ops < 4294967295) (t : Nat) (o : RmcClient.Outcome)
    (hdone : RmcClient.Out.done t o ∈ (RmcClient.run RmcClient.init ops).2)
    (hans : ∀ id msg, RmcClient.Out.sent t id ∈ (RmcClient.run RmcClient.init ops).2 →
        RmcClient.Op.recvResponse msg ∈ ops → msg.callId = id → msg.error = -1 ∧ msg.body = body) :
    o = .closed ∨ o = .none ∨
      (o = .body body ∧ clientResponse env cfg fuel m body = .ok (visArgs env cfg fuel m.response res)) := by
  rcases C10.no_cross_talk ops (C10.few_calls_distinct ops hn) t o hdone with e | e | ⟨id, msg, s1, s2, s3, s4⟩
  · exact .inl e
  · exact .inr (.inl e)
  · obtain ⟨he, hb⟩ := hans id msg s1 s2 s3
    exact .inr (.inr ⟨by rw [s4]; simp [RmcClient.outcomeOf, he, hb], (C13.response_layout h).2.1⟩)

/-- a call id names ONE request message of a connection — requests of response-less protocols included: they use up an
    id like every other request although nobody waits under it (`request(..., noresponse=True)`), as long as the 32-bit
    counter does not wrap -/
theorem one_way_request_has_its_own_call_id (ops : List RmcClient.Op) (hn : RmcClient.nCalls ops < 4294967295)
    (t u id : Nat) (ht : RmcClient.Out.sent t id ∈ (RmcClient.run RmcClient.init ops).2)
    (hu : RmcClient.Out.sent u id ∈ (RmcClient.run RmcClient.init ops).2) : t = u :=
  C10.request_ids_distinct ops hn t u id ht hu

/-- **response-less (one-way) calls mixed with ordinary calls on one connection.** Whether a peer answers a one-way
    request is not under the caller's control: only a peer that registered a handler for the protocol knows that it is
    response-less; a peer without one answers like for every unknown protocol id, with Core::NotImplemented under the
    request's call id. So the hypothesis about the peer is only: every response the client's loop receives is the reaction
    to SOME request message of this connection (it carries the call id under which a request `u` — ordinary or one-way —
    went out), and the reactions to caller `t`'s own request are the server's answer to it (success, body = what the
    generated server wrote for the values `res`). Then `t` — any interleaving of `request()` sections (ordinary and
    one-way), received datagrams, closures and resumptions — is told "closed", or was itself one-way, or is handed exactly
    that body and decodes it to the visible results: reactions to other requests, the stray errors for one-way requests
    included, never reach it. -/
theorem rpc_mixed_one_way_own_result {env : Env} {cfg : Cfg} {fuel : Nat} {m : MethodDef} {res : List Val} {body : Bytes}
    (h : serverResponse env cfg fuel m res = .ok body)
    (ops : List RmcClient.Op) (hn : RmcClient.nCalls ops < 4294967295) (t : Nat) (o : RmcClient.Outcome)
    (hdone : RmcClient.Out.done t o ∈ (RmcClient.run RmcClient.init ops).2)
    (hpeer : ∀ msg, RmcClient.Op.recvResponse msg ∈ ops →
        ∃ u id, RmcClient.Out.sent u id ∈ (RmcClient.run RmcClient.init ops).2 ∧ msg.callId = id ∧
          (u = t → msg.error = -1 ∧ msg.body = body)) :
    o = .closed ∨ o = .none ∨
      (o = .body body ∧ clientResponse env cfg fuel m body = .ok (visArgs env cfg fuel m.response res)) := by
  refine rpc_concurrent_own_result h ops hn t o hdone ?_
  intro id msg hs hr hid
  obtain ⟨u, id', hs', hid', hown⟩ := hpeer msg hr
  have hsame : u = t := by
    refine one_way_request_has_its_own_call_id ops hn u t id' hs' ?_
    rw [← hid', hid]; exact hs
  exact hown hsame

/-- methods the definition marks unsupported, methods a server class leaves unimplemented and unknown method
    ids all end in `Core::NotImplemented` -/
theorem not_supported {p : ProtoDef} {impl : Name → Bool} {id : Nat} :
    (findMethodById p id = none → dispatch p impl id = .notImplemented)
    ∧ (∀ m, findMethodById p id = some m → m.supported = false → dispatch p impl id = .notImplemented)
    ∧ (∀ m, findMethodById p id = some m → impl m.name = false → dispatch p impl id = .notImplemented) :=
  ⟨fun h => by simp [dispatch, h], fun _ h hs => by simp [dispatch, h, hs], fun _ h hi => by simp [dispatch, h, hi]⟩

/-- and only those: a supported, implemented method runs -/
theorem supported_runs {p : ProtoDef} {impl : Name → Bool} {id : Nat} {m : MethodDef}
    (h : findMethodById p id = some m) (hs : m.supported = true) (hi : impl m.name = true) :
    dispatch p impl id = .run m := by
  simp [dispatch, h, hs, hi]

/-- `RMCClient` switches structure headers on when the negotiated PRUDP minor version is ≥ 3, and otherwise
    leaves the settings alone; nothing else changes -/
theorem struct_header_auto (cfg : Cfg) (minor : Nat) :
    (minor ≥ 3 → (rmcClientCfg cfg minor).structHeader = true)
    ∧ (minor < 3 → rmcClientCfg cfg minor = cfg)
    ∧ (rmcClientCfg cfg minor).nexVersion = cfg.nexVersion ∧ (rmcClientCfg cfg minor).pidSize = cfg.pidSize :=
  ⟨fun h => by simp [rmcClientCfg, h], fun h => by simp [rmcClientCfg]; omega, by unfold rmcClientCfg; split <;> simp⟩


/-! ## string-valued positions, at the level of Python `str`

The interpreter carries a string as its UTF-8 bytes and drops the last *byte* when reading (difference G4 of
`NxModel/Nex/Schema.lean`); `StreamIn.string` drops the last *character* of the decoded text. For every encodable `str`
(a Lean `String`: any sequence of Unicode scalar values — U+0000 anywhere, white space, U+D7FF / U+E000 / U+FFFF included)
the two are the same codec, so `rpc_roundtrip_request` / `rpc_roundtrip_response`, which speak about `Val.str (utf8 s)`,
speak about `s` itself. The bridge is `C14Str.encStr_eq_wString`; the rest is the round trip of each side (`encStr_rt`, C15's `rString_wString`). -/

/-- a string position is written identically by the interpreter and by `StreamOut.string`, is encodable exactly up to
    65534 UTF-8 bytes, and reads back — bytewise in the interpreter, characterwise in `StreamIn.string` — as the string
    that was written, whatever it ends in; the rest of the message is untouched -/
theorem string_position_char_level (s : String) :
    encStr (Nex.utf8Enc s.toList) = Nex.wString (some s)
    ∧ ((∃ b, encStr (Nex.utf8Enc s.toList) = .ok b) ↔ (Nex.utf8Enc s.toList).length ≤ 65534)
    ∧ ∀ b, Nex.wString (some s) = .ok b → ∀ rest,
        decStr (b ++ rest) = .ok (some (Nex.utf8Enc s.toList), rest) ∧ Nex.rString (b ++ rest) = .ok (some s, rest) :=
  ⟨C14Str.encStr_eq_wString s, by rw [C14Str.encStr_eq_wString]; exact Nex.wString_ok_iff s,
    fun _ h rest => ⟨encStr_rt rest (by rw [C14Str.encStr_eq_wString]; exact h), Nex.rString_wString h rest⟩⟩

/-- strings that differ (for instance only in trailing U+0000) have different wire forms -/
theorem string_position_injective {s t : String} {b : Bytes}
    (hs : Nex.wString (some s) = .ok b) (ht : Nex.wString (some t) = .ok b) : s = t := by
  have h := Nex.rString_wString hs []
  rw [Nex.rString_wString ht []] at h
  simpa using h.symm

/-- non-trivial points: a string ending in U+0000, one consisting of U+0000 only, U+FFFF -/
example : Nex.rString ((Nex.wString (some "abc\x00")).toOption.getD [] ++ [7]) = .ok (some "abc\x00", [7])
    ∧ Nex.rString ((Nex.wString (some "\x00")).toOption.getD []) = .ok (some "\x00", [])
    ∧ decStr ((Nex.wString (some "\uffff\x00")).toOption.getD []) = .ok (some [0xEF, 0xBF, 0xBF, 0], []) := by decide +kernel

/-! ## over the real PRUDP leg -/

/-- what the receiver of a channel has delivered so far, position by position, is what was sent -/
theorem channel_delivers_what_was_sent (c : Chan.Cipher) (hc : Chan.CipherOk c) (size : Nat) (hsz : 1 ≤ size)
    (start : Nat) (hs : start < 65536) (ops : List Chan.Op) (hok : Chan.runOk c size (Chan.init start) ops = true)
    (k : Nat) (got : Bytes) (hgot : (Chan.run c size (Chan.init start) ops).r.core.reasm.out[k]? = some got) :
    (Chan.run c size (Chan.init start) ops).s.sent[k]? = some got := by
  obtain ⟨hS, hR⟩ := Chan.inv_reach c hc size hsz start hs ops hok
  obtain ⟨t, ht⟩ := Chan.delivered_prefix_sent c start _ hS hR
  rw [← ht, List.getElem?_append_left (List.getElem?_eq_some_iff.mp hgot).1, hgot]

/-- a leg (`hleg`) speaks of the encoding of a message, a transport (`hd`) of the `k`-th message it delivers: where the `k`-th message
    it accepted is that encoding, what the leg says holds of what arrives -/
theorem delivered_leg {α β : Type} {Q : α → β → Prop} {x : Except Err α} {sent : List α} {k : Nat} {wire got : α}
    (hleg : ∃ w msg, x = .ok w ∧ Q w msg) (henc : x = .ok wire) (hsent : sent[k]? = some wire) (hd : sent[k]? = some got) :
    ∃ msg, Q got msg := by
  obtain ⟨w, msg, e, q⟩ := hleg
  cases henc.symm.trans e
  cases hsent.symm.trans hd
  exact ⟨msg, q⟩

/-- **request leg over a misbehaving network.** `ops` is ANY history of one direction of a PRUDP connection (sends, pings,
    arrivals of any emitted packet in any order, any number of times, or never — within the half window, C01). If the
    k-th message the client's RMC layer sent is the framed request of a generated-client call, then the k-th message the
    server's RMC layer is handed — if it has been handed k+1 messages — parses to that request and the generated server
    decodes the visible arguments, with the call's protocol, method and call id. Holds for every k: earlier faults on the
    connection do not matter. (The cipher is any position-indexed cipher, RC4 included: `C01.rc4_like_ok`.) -/
theorem rpc_request_over_faulty_network (c : Chan.Cipher) (hc : Chan.CipherOk c) (size : Nat) (hsz : 1 ≤ size)
    (start : Nat) (hs : start < 65536) (ops : List Chan.Op) (hok : Chan.runOk c size (Chan.init start) ops = true)
    {env : Env} {cfg : Cfg} {fuel : Nat} {p : ProtoDef} {m : MethodDef} {args : List Val} {pi mi : Nat} {body : Bytes}
    (h : clientRequest env cfg fuel p m args = .ok (pi, mi, body)) (callId : Nat)
    (hwf : (Rmc.Spec.request pi callId mi body).WF) (wire : Bytes)
    (henc : Rmc.encode (Rmc.ofSpec (.request pi callId mi body)) = .ok wire)
    (k : Nat) (hsent : (Chan.run c size (Chan.init start) ops).s.sent[k]? = some wire)
    (got : Bytes) (hgot : (Chan.run c size (Chan.init start) ops).r.core.reasm.out[k]? = some got) :
    ∃ msg, Rmc.decode got = .ok msg ∧ msg.mode = 0 ∧ msg.protocol = p.id ∧ msg.method = some m.id ∧ msg.callId = callId
      ∧ serverRequest env cfg fuel m msg.body = .ok (visArgs env cfg fuel m.request args) :=
  delivered_leg (rpc_roundtrip_request h callId hwf) henc hsent
    (channel_delivers_what_was_sent c hc size hsz start hs ops hok k got hgot)

/-- **request leg between two PRUDP ENDPOINTS** (the L1 endpoint model that is tied byte for byte to `PRUDPClient`, instead
    of the abstract channel): `ops` is ANY run of the two-endpoint system of C01 — sends fragment by fragment, keep-alive pings,
    retransmissions, deliveries of any copy in any order through the whole receive path, injected packets with wrong
    signatures, acknowledgements of any kind, traffic of the other direction and of other substreams. If the k-th message the
    client's RMC layer passed to `send` is the framed request of a generated-client call, then the k-th message the server's
    RMC layer is handed — if it has been handed k+1 messages — parses to that request and the generated server decodes the
    visible arguments. -/
theorem rpc_request_between_endpoints (penv : L1.Env) (hl : L1.EnvLaws penv)
    (sub : Nat) (ci : Chan.Cipher) (size : Nat) (hsz : 1 ≤ size) (start : Nat) (ops : List L1.SysOp) (s : L1.Sys) (ch : Chan.Chan)
    (h0 : L1.Good penv sub ci size start s ch) (hok : L1.Sys.runOk penv sub s ops = true)
    {env : Env} {cfg : Cfg} {fuel : Nat} {p : ProtoDef} {m : MethodDef} {args : List Val} {pi mi : Nat} {body : Bytes}
    (h : clientRequest env cfg fuel p m args = .ok (pi, mi, body)) (callId : Nat)
    (hwf : (Rmc.Spec.request pi callId mi body).WF) (wire : Bytes)
    (henc : Rmc.encode (Rmc.ofSpec (.request pi callId mi body)) = .ok wire)
    (k : Nat) (hsent : (L1.Sys.run penv sub s ops).accepted[k]? = some wire)
    (got : Bytes) (hgot : ((L1.Sys.run penv sub s ops).b.queues[sub]?.getD [])[k]? = some got) :
    ∃ msg, Rmc.decode got = .ok msg ∧ msg.mode = 0 ∧ msg.protocol = p.id ∧ msg.method = some m.id ∧ msg.callId = callId
      ∧ serverRequest env cfg fuel m msg.body = .ok (visArgs env cfg fuel m.request args) :=
  delivered_leg (rpc_roundtrip_request h callId hwf) henc hsent
    (L1.good_delivers_kth (L1.sys_refines penv hl sub ci size hsz start ops s ch h0 hok).1 k got hgot)

/-- **a whole remote call between two PRUDP endpoints, both directions on ONE connection** (`NxProofs/Duplex.lean`): `ops` is
    ANY history of the duplex system — sends of both ends fragment by fragment, keep-alives, deliveries of any copy of any packet
    of either direction through the other end's whole receive path, acknowledgements, retransmission timers of both ends. If
    the k-th message the client's RMC layer (end A) passed to `send` is the framed request of a generated-client call and the
    k'-th message the server's RMC layer (end B) passed to `send` is the framed success response of that method, then the k-th
    message B's RMC layer is handed parses to that request and the generated server decodes the visible arguments, AND the
    k'-th message A's RMC layer is handed parses to that response and the generated client decodes the visible results. -/
theorem rpc_roundtrip_between_endpoints (penv : L1.Env) (hl : L1.EnvLaws penv)
    (sub : Nat) (ciA ciB : Chan.Cipher) (sizeA sizeB : Nat) (hA : 1 ≤ sizeA) (hB : 1 ≤ sizeB) (startA startB : Nat)
    (ops : List L1.DOp) (d : L1.Duplex) (chAB chBA : Chan.Chan)
    (h0 : L1.DGood penv sub ciA ciB sizeA sizeB startA startB d chAB chBA) (hok : L1.Duplex.runOk penv sub d ops = true)
    {env : Env} {cfg : Cfg} {fuel : Nat} {p : ProtoDef} {m : MethodDef} {args res : List Val} {pi mi : Nat} {body rbody : Bytes}
    (h : clientRequest env cfg fuel p m args = .ok (pi, mi, body)) (callId : Nat)
    (hwf : (Rmc.Spec.request pi callId mi body).WF) (wire : Bytes)
    (henc : Rmc.encode (Rmc.ofSpec (.request pi callId mi body)) = .ok wire)
    (hr : serverResponse env cfg fuel m res = .ok rbody)
    (hwfr : (Rmc.Spec.success pi callId m.id rbody).WF) (rwire : Bytes)
    (hencr : Rmc.encode (Rmc.ofSpec (.success pi callId m.id rbody)) = .ok rwire)
    (k k' : Nat)
    (hsent : (L1.Duplex.run penv sub d ops).ab.accepted[k]? = some wire)
    (hsentr : (L1.Duplex.run penv sub d ops).ba.accepted[k']? = some rwire)
    (got : Bytes) (hgot : ((L1.Duplex.run penv sub d ops).ab.b.queues[sub]?.getD [])[k]? = some got)
    (gotr : Bytes) (hgotr : ((L1.Duplex.run penv sub d ops).ab.a.queues[sub]?.getD [])[k']? = some gotr) :
    (∃ msg, Rmc.decode got = .ok msg ∧ msg.mode = 0 ∧ msg.protocol = p.id ∧ msg.method = some m.id ∧ msg.callId = callId
      ∧ serverRequest env cfg fuel m msg.body = .ok (visArgs env cfg fuel m.request args)) ∧
    (∃ msg, Rmc.decode gotr = .ok msg ∧ msg.mode = 1 ∧ msg.callId = callId ∧ msg.error = -1
      ∧ clientResponse env cfg fuel m msg.body = .ok (visArgs env cfg fuel m.response res)) := by
  have hg := L1.duplex_run penv hl sub ciA ciB sizeA sizeB hA hB startA startB ops d chAB chBA h0 hok
  rw [hg.same.a] at hgotr
  exact ⟨delivered_leg (rpc_roundtrip_request h callId hwf) henc hsent (L1.good_delivers_kth hg.ab k got hgot),
    delivered_leg (rpc_roundtrip_response hr pi callId hwfr) hencr hsentr (L1.good_delivers_kth hg.ba k' gotr hgotr)⟩

/-- **a remote call from the very beginning of a connection**: a client object fresh from `Conn.new`, `handshake()` without
    credentials, ANY sequence of SYN / CONNECT packets handed to it (`clientRun`), the connection a server without a ticket key
    registered for a CONNECT from this peer — and then ANY history of the duplex system. Of the state after the handshake only
    `hconn` (the client ended up CONNECTED) and positive fragment sizes at both ends are assumed; `Established` in both
    directions is derived (`L1.client_half_any_packets`, `L1.server_half_established`, `L1.server_ciphers`), then
    `L1.duplex_established` gives the coupling, and the request and the response of a generated method arrive as in
    `rpc_roundtrip_between_endpoints`. -/
theorem rpc_roundtrip_from_handshake (penv : L1.Env) (hl : L1.EnvLaws penv)
    (version : Option Nat) (u chk sid : Nat) (la : L1.Addr) (lp lt : Nat) (ra : L1.Addr) (rp rt : Nat) (t0 t3 : L1.Time)
    (xs : List L1.HsPkt) (c' : L1.Conn)
    (hrun : L1.clientRun penv ((L1.Conn.new penv version u chk sid la lp lt ra rp rt).handshake penv t0 none).c xs = some c')
    (now : L1.Time) (rnd : L1.Rnd) (s : L1.ServerStream) (con : Prudp.Packet) (addr : L1.Addr) (hkey : s.key = none)
    (hnew : L1.clientLookup (addr, con.sourcePort, con.sourceType) s.clients = none) (cs : L1.Conn)
    (hreg : L1.clientLookup (addr, con.sourcePort, con.sourceType) (s.processConnect penv now rnd true con addr).s.clients = some cs)
    (sub : Nat) (hsub : sub ≤ penv.s.maxSubstreamId)
    (hconn : (c'.resumeHandshake t3).c.state = L1.STATE_CONNECTED)
    (hA : 1 ≤ (c'.resumeHandshake t3).c.fragmentSize) (hB : 1 ≤ cs.fragmentSize)
    (ops : List L1.DOp)
    (hok : L1.Duplex.runOk penv sub { ab := L1.Sys.fresh (c'.resumeHandshake t3).c cs, ba := L1.Sys.fresh cs (c'.resumeHandshake t3).c } ops = true)
    {env : Env} {cfg : Cfg} {fuel : Nat} {p : ProtoDef} {m : MethodDef} {args res : List Val} {pi mi : Nat} {body rbody : Bytes}
    (h : clientRequest env cfg fuel p m args = .ok (pi, mi, body)) (callId : Nat)
    (hwf : (Rmc.Spec.request pi callId mi body).WF) (wire : Bytes)
    (henc : Rmc.encode (Rmc.ofSpec (.request pi callId mi body)) = .ok wire)
    (hr : serverResponse env cfg fuel m res = .ok rbody)
    (hwfr : (Rmc.Spec.success pi callId m.id rbody).WF) (rwire : Bytes)
    (hencr : Rmc.encode (Rmc.ofSpec (.success pi callId m.id rbody)) = .ok rwire)
    (k k' : Nat)
    (hsent : (L1.Duplex.run penv sub { ab := L1.Sys.fresh (c'.resumeHandshake t3).c cs, ba := L1.Sys.fresh cs (c'.resumeHandshake t3).c } ops).ab.accepted[k]? = some wire)
    (hsentr : (L1.Duplex.run penv sub { ab := L1.Sys.fresh (c'.resumeHandshake t3).c cs, ba := L1.Sys.fresh cs (c'.resumeHandshake t3).c } ops).ba.accepted[k']? = some rwire)
    (got : Bytes) (hgot : ((L1.Duplex.run penv sub { ab := L1.Sys.fresh (c'.resumeHandshake t3).c cs, ba := L1.Sys.fresh cs (c'.resumeHandshake t3).c } ops).ab.b.queues[sub]?.getD [])[k]? = some got)
    (gotr : Bytes) (hgotr : ((L1.Duplex.run penv sub { ab := L1.Sys.fresh (c'.resumeHandshake t3).c cs, ba := L1.Sys.fresh cs (c'.resumeHandshake t3).c } ops).ab.a.queues[sub]?.getD [])[k']? = some gotr) :
    (∃ msg, Rmc.decode got = .ok msg ∧ msg.mode = 0 ∧ msg.protocol = p.id ∧ msg.method = some m.id ∧ msg.callId = callId
      ∧ serverRequest env cfg fuel m msg.body = .ok (visArgs env cfg fuel m.request args)) ∧
    (∃ msg, Rmc.decode gotr = .ok msg ∧ msg.mode = 1 ∧ msg.callId = callId ∧ msg.error = -1
      ∧ clientResponse env cfg fuel m msg.body = .ok (visArgs env cfg fuel m.response res)) := by
  obtain ⟨hcr, hck, hcon⟩ := L1.client_half_any_packets penv version u chk sid la lp lt ra rp rt t0 t3 none xs c' hrun sub hsub hconn
  obtain ⟨hson, hsk⟩ := L1.server_ciphers penv now rnd true s con addr hnew cs hreg
  have hest := L1.established_of_halves sub _ cs hcr (L1.server_half_established penv now rnd true s con addr hnew cs hreg sub hsub)
    (by rw [hck, hsk hkey])
    (by rw [hson, hcon])
  have h0 := L1.duplex_established penv sub _ _ _ cs hest.1 hest.2
  exact rpc_roundtrip_between_endpoints penv hl sub _ _ _ _ hA hB _ _ ops _ _ _ h0 hok h callId hwf wire henc hr hwfr rwire hencr
    k k' hsent hsentr got hgot gotr hgotr

/-- **response leg over a misbehaving network** (the other direction of the connection is another channel) -/
theorem rpc_response_over_faulty_network (c : Chan.Cipher) (hc : Chan.CipherOk c) (size : Nat) (hsz : 1 ≤ size)
    (start : Nat) (hs : start < 65536) (ops : List Chan.Op) (hok : Chan.runOk c size (Chan.init start) ops = true)
    {env : Env} {cfg : Cfg} {fuel : Nat} {m : MethodDef} {res : List Val} {body : Bytes}
    (h : serverResponse env cfg fuel m res = .ok body) (protocol callId : Nat)
    (hwf : (Rmc.Spec.success protocol callId m.id body).WF) (wire : Bytes)
    (henc : Rmc.encode (Rmc.ofSpec (.success protocol callId m.id body)) = .ok wire)
    (k : Nat) (hsent : (Chan.run c size (Chan.init start) ops).s.sent[k]? = some wire)
    (got : Bytes) (hgot : (Chan.run c size (Chan.init start) ops).r.core.reasm.out[k]? = some got) :
    ∃ msg, Rmc.decode got = .ok msg ∧ msg.mode = 1 ∧ msg.callId = callId ∧ msg.error = -1
      ∧ clientResponse env cfg fuel m msg.body = .ok (visArgs env cfg fuel m.response res) :=
  delivered_leg (rpc_roundtrip_response h protocol callId hwf) henc hsent
    (channel_delivers_what_was_sent c hc size hsz start hs ops hok k got hgot)

/-- both ends of a connection that were given equal settings encode and decode with the same configuration, whatever
    minor versions were configured; on PRUDP v0 (no option fields: both ends report 0) that configuration is the
    settings' own; in general each end has structure headers iff its settings say so or the negotiated minor version is ≥ 3 -/
theorem both_ends_same_codec (v0 : Bool) (cfg cfgC cfgS : Cfg) (minorC minorS : Nat) :
    (C14Wire.endCfgs v0 cfg cfg minorC minorS).1 = (C14Wire.endCfgs v0 cfg cfg minorC minorS).2
    ∧ (v0 = true → C14Wire.endCfgs v0 cfgC cfgS minorC minorS = (cfgC, cfgS))
    ∧ (C14Wire.endCfgs v0 cfgC cfgS minorC minorS).1.structHeader
        = (cfgC.structHeader || decide (C14Wire.negotiatedMinor v0 minorC minorS ≥ 3))
    ∧ (C14Wire.endCfgs v0 cfgC cfgS minorC minorS).2.structHeader
        = (cfgS.structHeader || decide (C14Wire.negotiatedMinor v0 minorC minorS ≥ 3)) := by
  refine ⟨rfl, ?_, rmcClientCfg_structHeader _ _, rmcClientCfg_structHeader _ _⟩
  intro hv; subst hv; simp [C14Wire.endCfgs, C14Wire.negotiatedMinor, rmcClientCfg]

/-- `negotiatedMinor false` is what the L1 handshake model (C06's lemmas) makes both endpoints report: the connection
    the server registers for the client's CONNECT and the client after its SYN/ACK both hold the meet -/
theorem negotiated_minor_is_handshake (envS envC : L1.Env) (now now' : L1.Time) (rnd : L1.Rnd) (up : Bool)
    (s : L1.ServerStream) (c : L1.Conn) (syn ack con : Prudp.Packet) (caddr to : L1.Addr) (d : Bytes) (hn : Nat) (cs : L1.Conn)
    (hsyn : (syn.minorVersion, syn.maxSubstreamId, syn.supportedFunctions) = c.params)
    (hack : (s.processSyn envS syn caddr).outs = [.emit to ack d])
    (hpend : L1.ackLookup (L1.ackKeyOf ack) c.ackEvents = some hn)
    (hacc : (c.processSyn envC now ack).err = none)
    (hcon : (con.minorVersion, con.maxSubstreamId, con.supportedFunctions) = (c.processSyn envC now ack).c.params)
    (hnew : L1.clientLookup (caddr, con.sourcePort, con.sourceType) s.clients = none)
    (hreg : L1.clientLookup (caddr, con.sourcePort, con.sourceType) (s.processConnect envS now' rnd up con caddr).s.clients = some cs)
    (cfg : Cfg) :
    cs.minorVer = C14Wire.negotiatedMinor false c.minorVer s.minorVer
    ∧ (c.processSyn envC now ack).c.minorVer = C14Wire.negotiatedMinor false c.minorVer s.minorVer
    ∧ rmcClientCfg cfg cs.minorVer = rmcClientCfg cfg (c.processSyn envC now ack).c.minorVer := by
  obtain ⟨h1, h2⟩ := C06.C06_agree envS envC now now' rnd up s c syn ack con caddr to d hn cs hsyn hack hpend hacc hcon hnew hreg
  have e2 : cs.minorVer = min s.minorVer c.minorVer := congrArg Prod.fst h2
  have e1 : (c.processSyn envC now ack).c.minorVer = min s.minorVer c.minorVer := (congrArg Prod.fst h1).symm.trans e2
  refine ⟨by simp [C14Wire.negotiatedMinor, e2], by simp [C14Wire.negotiatedMinor, e1], by rw [e1, e2]⟩

/-! ## the theorems at concrete points (shapes of `Schema.Ex`) -/

-- `hasc`, `hl`, `hp` of `forward_compat_struct` on the shape of `RVConnectionData`, then its conclusion for `v' = 7`, `x = [0xAA, 0xBB]`
example : Ex.conn.items.revAscending = true := by decide +kernel
example : lookup Ex.env 82 = some Ex.conn ∧ Ex.conn.parent = none := by decide +kernel
-- RVConnectionData-like value at nex 4.0 with headers: revision 1, 18-byte body
example : encObj Ex.env Ex.cfgNew 8 82 [.str Schema.prudpUrl, .int 5]
    = .ok ([1, 18, 0, 0, 0] ++ [8, 0, 0x70, 0x72, 0x75, 0x64, 0x70, 0x3A, 0x2F, 0, 5, 0, 0, 0, 0, 0, 0, 0], []) := by rfl
-- announced as revision 7 with two trailing bytes inside the body: same attributes, rest untouched
example : decObj Ex.env Ex.cfgNew 8 82
    ([7, 20, 0, 0, 0] ++ [8, 0, 0x70, 0x72, 0x75, 0x64, 0x70, 0x3A, 0x2F, 0, 5, 0, 0, 0, 0, 0, 0, 0] ++ [0xAA, 0xBB] ++ [9, 9])
    = .ok ([.str Schema.prudpUrl, .int 5], [9, 9]) := by rfl
-- strings are length-prefixed in BYTES (UTF-8 + terminator), not characters: "é" = C3 A9 is written with length 3
example : encObj Ex.env Ex.cfgNew 8 71 [.int 7, .str [0xC3, 0xA9]]
    = .ok ([0, 9, 0, 0, 0] ++ [7, 0, 0, 0, 3, 0, 0xC3, 0xA9, 0], []) := by rfl
-- two calls in flight, answered in the opposite order: each caller is handed the body carrying its own call id
example : (RmcClient.run RmcClient.init [.call false, .call false,
      .recvResponse { mode := 1, protocol := 21, method := some 1, callId := 2, error := -1, body := [2, 2] },
      .recvResponse { mode := 1, protocol := 21, method := some 1, callId := 1, error := -1, body := [1] },
      .wake 0, .wake 1]).2
    = [.sent 0 1, .sent 1 2, .set 1, .set 0, .done 0 (.body [1]), .done 1 (.body [2, 2])] := by decide +kernel
-- `hn` of `rpc_concurrent_own_result` on a history with those two calls (`nCalls` counts the `.call`s)
example : RmcClient.nCalls [.call false, .call false, .wake 0] < 4294967295 := by decide +kernel
-- a one-way request (call id 1) to a peer without a handler for its protocol, directly followed by an ordinary call (call id 2):
-- the peer's Core::NotImplemented for the one-way request is dropped ("invalid call id"), the ordinary caller gets its own body
example : (RmcClient.run RmcClient.init [.call true, .call false,
      .recvResponse { mode := 1, protocol := 14, method := none, callId := 1, error := 0x10002, body := [] },
      .recvResponse { mode := 1, protocol := 10, method := some 2, callId := 2, error := -1, body := [7] },
      .wake 1]).2
    = [.sent 0 1, .done 0 .none, .sent 1 2, .warnInvalidCallId 1, .set 1, .done 1 (.body [7])] := by decide +kernel
-- `hn` of `rpc_mixed_one_way_own_result`, likewise
example : RmcClient.nCalls [.call true, .call false, .wake 1] < 4294967295 := by decide +kernel
-- `hwf` of `rpc_roundtrip_request`
example : (Rmc.Spec.request 21 1 1 [7, 0, 0, 0]).WF := by decide +kernel
-- `not_supported` (unsupported id 2, nothing implemented, unknown id 3), `supported_runs` (id 1) and `struct_header_auto` on `Ex.proto`, `Ex.cfgOld`
example : dispatch Ex.proto (fun _ => true) 2 = .notImplemented ∧ dispatch Ex.proto (fun _ => true) 1 = .run Ex.meth
    ∧ dispatch Ex.proto (fun _ => false) 1 = .notImplemented ∧ dispatch Ex.proto (fun _ => true) 3 = .notImplemented := by decide +kernel
example : (rmcClientCfg Ex.cfgOld 3).structHeader = true ∧ (rmcClientCfg Ex.cfgOld 2).structHeader = false := by decide

-- a request of 5 bytes, fragment size 2, id wrap: the second fragment arrives twice, the last one first — delivered once, intact
example : let ops := [Chan.Op.send [1, 2, 3, 4, 5], .arrive 1, .arrive 1, .arrive 2, .arrive 0, .arrive 2]
    Chan.runOk Chan.idCipher 2 (Chan.init 65535) ops = true ∧
      (Chan.run Chan.idCipher 2 (Chan.init 65535) ops).r.core.reasm.out = [[1, 2, 3, 4, 5]] := by decide +kernel
-- 3ds / friends (v0): server configured with minor version 4, both ends run without structure headers; default (v1): with
example : C14Wire.endCfgs true Ex.cfgOld Ex.cfgOld 4 4 = (Ex.cfgOld, Ex.cfgOld)
    ∧ (C14Wire.endCfgs false Ex.cfgOld Ex.cfgOld 4 4).2.structHeader = true
    ∧ (C14Wire.endCfgs false Ex.cfgOld Ex.cfgOld 4 2).1.structHeader = false := by decide +kernel

end Nx.C14
