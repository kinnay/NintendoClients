import NxProofs.Rmc
/-!
# C09 — RMC message framing is lossless, strict and specification-conformant

Model: `NxModel/Nex/Rmc.lean` (`encode`/`decode` mirror `RMCMessage.encode/decode`;
`specEncode` is the independent reference framing). Lemmas: `NxProofs/Rmc.lean`.
`Spec.WF` is exactly the property's quantifier: protocol ids 0..0xFFFF, call ids 0..2^32-1,
method ids < 2^32 (requests) / < 2^15 (responses), error codes with bit 31 set, any body that fits a u32 length.
-/
namespace Nx.C09
open Nx.Rmc

/-- the bytes the library emits equal the reference framing, for every message -/
theorem rmc_encode_is_reference (s : Spec) (h : s.WF) : encode (ofSpec s) = .ok (specEncode s) :=
  encode_ofSpec s h

/-- encode then decode preserves mode, protocol id, method id, call id, error code and body -/
theorem rmc_roundtrip (s : Spec) (h : s.WF) (b : Bytes) (he : encode (ofSpec s) = .ok b) :
    decode b = .ok (ofSpec s) := by
  rw [encode_ofSpec s h] at he
  cases he
  exact decode_specEncode s h

/-- reference-framed bytes are accepted and decode to the same fields -/
theorem rmc_reference_accepted (s : Spec) (h : s.WF) : decode (specEncode s) = .ok (ofSpec s) :=
  decode_specEncode s h

/-- ids from 0x7F upwards use the extended form, smaller ones the short form -/
theorem rmc_extended_iff (isReq : Bool) (p : Nat) :
    (specProto isReq p).length = if p ≥ 0x7F then 3 else 1 :=
  specProto_length isReq p

/-- accepted ⇒ the length prefix equals the number of bytes that follow it -/
theorem rmc_length_strict {d : Bytes} {m : Msg} (h : decode d = .ok m) :
    ∃ l s, rdU32 d = .ok (l, s) ∧ l = s.length := by
  obtain ⟨⟨l, s⟩, hr, _⟩ := bind_ok h
  refine ⟨l, s, hr, Decidable.byContradiction fun hne => ?_⟩
  rw [decode_prefix_mismatch hr hne] at h
  cases h

/-- a length prefix that disagrees with the size is rejected (never misparsed) -/
theorem rmc_length_mismatch_rejected {d s : Bytes} {l : Nat} (h : rdU32 d = .ok (l, s)) (hne : l ≠ s.length) :
    decode d = .error .value :=
  decode_prefix_mismatch h hne

/-- every proper prefix (truncation) of every valid message is rejected -/
theorem rmc_truncation_rejected (s : Spec) (h : s.WF) (k : Nat) (hk : k < (specEncode s).length) :
    ∃ e, decode ((specEncode s).take k) = .error e := by
  obtain ⟨payload, e, hn⟩ := specEncode_frame s h
  rw [e] at hk ⊢
  exact decode_take_frame payload hn k hk

/-- a valid message followed by extra bytes is rejected -/
theorem rmc_extension_rejected (payload extra : Bytes) (hn : payload.length < 4294967296) (hx : extra ≠ []) :
    decode (specFrame payload ++ extra) = .error .value := by
  apply decode_prefix_mismatch (rdU32_u32le _ _ hn)
  simp; omega

/-- an error response with trailing bytes is rejected even when the frame length is consistent -/
theorem rmc_error_no_trailing (p c e : Nat) (extra : Bytes) (hp : p < 65536) (hc : c < 4294967296)
    (he : e < 4294967296) (hx : extra ≠ []) (hl : extra.length < 4294967000) :
    decode (specFrame (specProto false p ++ [0] ++ u32le e ++ u32le c ++ extra)) = .error .value := by
  simp only [List.append_assoc]
  rw [decode_frame _ _ hp _ (by simp; omega), decodeBody_failure p c e hc he, if_neg hx]

/-! ### one message object over time
The model's `encode` is a function of the object's current field values (there is no other state), so "the bytes
follow the current fields" holds in the model by construction; what is worth stating is which reference framing a
response object has after its `error` attribute alone was assigned. The check ties the real object to this by
encoding ONE `RMCMessage` again after every single-field assignment (harness/c09_objects.py). -/

/-- a prepared response downgraded to an error (`msg.error = code`): the reference error framing of its protocol
    and call id, whatever method and body the object still holds -/
theorem rmc_error_assigned_is_reference (m : Msg) (hmode : m.mode = 1) (e : Nat)
    (h : (Spec.failure m.protocol m.callId e).WF) :
    encode { m with error := (e : Int) } = .ok (specEncode (.failure m.protocol m.callId e)) := by
  obtain ⟨hp, hc, he1, he2⟩ := h
  cases m
  subst hmode
  exact encode_failure _ _ _ _ _ hp hc he1 he2

/-- the error withdrawn again (`msg.error = -1`): the reference success framing of the method and body it holds -/
theorem rmc_error_withdrawn_is_reference (m : Msg) (hmode : m.mode = 1) (meth : Nat) (hmeth : m.method = some meth)
    (h : (Spec.success m.protocol m.callId meth m.body).WF) :
    encode { m with error := -1 } = .ok (specEncode (.success m.protocol m.callId meth m.body)) := by
  cases m
  subst hmode hmeth
  exact encode_ofSpec (.success _ _ _ _) h

/-- a request object's bytes do not depend on its `error` attribute -/
theorem rmc_request_ignores_error (m : Msg) (hmode : m.mode = 0) (e : Int) :
    encode { m with error := e } = encode m := by
  simp only [encode, hmode, if_true]

/-! non-vacuity: `rmc_error_assigned_is_reference` at the first extended protocol id, and the assignment does change the bytes;
    `Spec.WF` for each form of message (the success form at its bounds); `rmc_reference_accepted` and the bytes of a short-form
    request at a point -/
example : encode { ofSpec (.success 0x7F 9 5 [1, 2]) with error := 0x8001000B }
    = .ok (specEncode (.failure 0x7F 9 0x8001000B)) := by decide +kernel
example : encode { ofSpec (.success 0x7F 9 5 [1, 2]) with error := 0x8001000B }
    ≠ encode (ofSpec (.success 0x7F 9 5 [1, 2])) := by decide +kernel
example : (Spec.request 0x7F 9 5 [1, 2]).WF := by decide +kernel
example : (Spec.success 0xFFFF 4294967295 0x7FFF []).WF := by decide +kernel
example : (Spec.failure 0x80 1 0x80010002).WF := by decide +kernel
example : decode (specEncode (.request 0x7F 9 5 [1, 2])) = .ok (ofSpec (.request 0x7F 9 5 [1, 2])) := by decide +kernel
example : encode (ofSpec (.request 0x7E 9 5 [])) = .ok [9, 0, 0, 0, 0xFE, 9, 0, 0, 0, 5, 0, 0, 0] := by decide +kernel

end Nx.C09
