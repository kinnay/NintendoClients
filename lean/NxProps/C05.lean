import NxProofs.Admission
import NxProofs.HonestPath
import NxProofs.Backend
import NxProofs.C05Dst
import NxProps.C04

/-!
# C05 — a keyed PRUDP server admits exactly holders of a valid, fresh Kerberos ticket

Model: L1 `ServerStream.processConnect` (= `PRUDPServerStream.process_connect` + `process_login_request`, with the
repair of repo commit 5fe58c8: an established client is never logged in again) and `Conn.checkConnectionResponse`.
`env.loginRequest` is the login check; `loginRequestFn` is the concrete one (Kerberos model of C16, DateTime model of
C15). `connectPrecheck` = the signature, flag/id and negotiation checks that precede it (C04, C06).
-/
namespace Nx.C05
open Nx.Prudp Nx.L1

/-- a CONNECT from a new peer that passed the pre-checks and whose login request is accepted: the connection is registered as
    CONNECTED under the pid, cid and session key the login check returned (the ticket's: `accepted_request_is_valid`), and the
    handler starts -/
theorem admitted_identity (env : Env) (now : Time) (rnd : Rnd) (up : Bool) (s : ServerStream) (p : Packet) (addr : Addr)
    (key : Bytes) (hk : s.key = some key) (hpre : connectPrecheck env s p addr)
    (hnew : clientLookup (addr, p.sourcePort, p.sourceType) s.clients = none)
    (pid cid : Nat) (sk resp : Bytes) (hl : env.loginRequest p.payload key now = .ok (pid, cid, sk, resp)) :
    (∃ c, clientLookup (addr, p.sourcePort, p.sourceType) (s.processConnect env now rnd up p addr).s.clients = some c ∧
      c.userPid = some pid ∧ c.userCid = some cid ∧ c.sessionKey = sk ∧ c.state = STATE_CONNECTED) ∧
    SOut.started (addr, p.sourcePort, p.sourceType) ∈ (s.processConnect env now rnd up p addr).outs := by
  have h := ServerStream.processConnect_valid env now rnd up s p addr hpre
  simp only [hnew, Option.getD_none, Option.isNone_none, if_true, loginStep_some env now s p _ _ key hk, hl] at h
  rw [h.1]
  exact ⟨⟨_, clientLookup_set_same _ _ _, rfl, rfl, rfl, rfl⟩, h.2 trivial⟩

/-- any refused request — missing, truncated, altered, stale, wrong key, mismatched user — creates nothing -/
theorem reject_creates_nothing (env : Env) (now : Time) (rnd : Rnd) (up : Bool) (s : ServerStream) (p : Packet) (addr : Addr)
    (key : Bytes) (hk : s.key = some key) (e : Err) (hl : env.loginRequest p.payload key now = .error e) :
    (s.processConnect env now rnd up p addr).s = s ∧ (s.processConnect env now rnd up p addr).outs = [] ∧
    (s.processConnect env now rnd up p addr).err.isSome := by
  by_cases hpre : connectPrecheck env s p addr
  · have h := ServerStream.processConnect_valid env now rnd up s p addr hpre
    simp only [loginStep_some env now s p _ _ key hk, hl] at h
    rw [h]; exact ⟨rfl, rfl, rfl⟩
  · rw [ServerStream.processConnect_invalid env now rnd up s p addr hpre]; exact ⟨rfl, rfl, rfl⟩

/-- **admit iff.** With a ticket key configured, a CONNECT from a new peer that passed the pre-checks makes the server
    register a connection if and only if the login request is accepted. -/
theorem admit_iff (env : Env) (now : Time) (rnd : Rnd) (up : Bool) (s : ServerStream) (p : Packet) (addr : Addr)
    (key : Bytes) (hk : s.key = some key) (hpre : connectPrecheck env s p addr)
    (hnew : clientLookup (addr, p.sourcePort, p.sourceType) s.clients = none) :
    (clientLookup (addr, p.sourcePort, p.sourceType) (s.processConnect env now rnd up p addr).s.clients).isSome ↔
      (env.loginRequest p.payload key now).isOk := by
  cases hl : env.loginRequest p.payload key now with
  | error e =>
    have := reject_creates_nothing env now rnd up s p addr key hk e hl
    rw [this.1, hnew]; simp [Except.isOk, Except.toBool]
  | ok v =>
    obtain ⟨pid, cid, sk, resp⟩ := v
    obtain ⟨⟨c, hc, _⟩, _⟩ := admitted_identity env now rnd up s p addr key hk hpre hnew pid cid sk resp hl
    rw [hc]; simp [Except.isOk, Except.toBool]

/-- **admission has no memory.** Two arbitrary server states with the same ticket key in which the endpoint has no entry and the
    CONNECT passes the pre-checks — e.g. a fresh server, and the same server after it admitted this very CONNECT once and that
    connection has ended: the same CONNECT at the same instant is admitted by both or by neither. Having been admitted before
    gains a request nothing; it is judged again by the login check, against the clock (`accepted_request_is_valid`: at most
    120 s old). An entry that still exists (its handler has not returned) is the other case: `replayed_connect_inert`. -/
theorem admission_ignores_history (env : Env) (now : Time) (rnd₁ rnd₂ : Rnd) (up₁ up₂ : Bool) (s₁ s₂ : ServerStream) (p : Packet)
    (addr : Addr) (key : Bytes) (hk₁ : s₁.key = some key) (hk₂ : s₂.key = some key)
    (hpre₁ : connectPrecheck env s₁ p addr) (hpre₂ : connectPrecheck env s₂ p addr)
    (hnew₁ : clientLookup (addr, p.sourcePort, p.sourceType) s₁.clients = none)
    (hnew₂ : clientLookup (addr, p.sourcePort, p.sourceType) s₂.clients = none) :
    (clientLookup (addr, p.sourcePort, p.sourceType) (s₁.processConnect env now rnd₁ up₁ p addr).s.clients).isSome ↔
    (clientLookup (addr, p.sourcePort, p.sourceType) (s₂.processConnect env now rnd₂ up₂ p addr).s.clients).isSome := by
  rw [admit_iff env now rnd₁ up₁ s₁ p addr key hk₁ hpre₁ hnew₁, admit_iff env now rnd₂ up₂ s₂ p addr key hk₂ hpre₂ hnew₂]

/-- what acceptance means for the concrete check: ticket under the server key, at most 120 s old, request under the
    ticket's session key, exact size, same user id; identity and key come from the ticket; response = 4 ‖ check+1 -/
theorem accepted_request_is_valid (kc : Nex.Kerberos.Cfg) (epoch : Nat) (tz : Int) (data key : Bytes) (now : Time)
    (pid cid : Nat) (sk resp : Bytes) (h : loginRequestFn kc epoch tz data key now = .ok (pid, cid, sk, resp)) :
    ∃ td r1 rd r2 ticket ts dec r3 r4 r5 check,
      Nex.rBuffer data = .ok (td, r1) ∧ Nex.rBuffer r1 = .ok (rd, r2) ∧
      Nex.Kerberos.ServerTicket.decrypt kc key td = .ok ticket ∧
      Nex.DateTime.timestamp tz ticket.timestamp = .ok ts ∧
      ¬ ((ts + 120 - (epoch : Int)) * 1073741824 < (now : Int)) ∧
      Nex.Kerberos.decrypt ticket.sessionKey rd = .ok dec ∧ dec.length = kc.pidSize + 8 ∧
      Nex.rPid kc.pidSize dec = .ok (pid, r3) ∧ pid = ticket.source ∧ sk = ticket.sessionKey ∧
      rdU32 r3 = .ok (cid, r4) ∧ rdU32 r4 = .ok (check, r5) ∧
      resp = u32le 4 ++ u32le ((check + 1) % 4294967296) :=
  login_accept_implies kc epoch tz data key now pid cid sk resp h

/-- a replayed or retransmitted CONNECT never changes an established connection (identity, keys, cipher positions) -/
theorem replayed_connect_inert (env : Env) (now : Time) (rnd : Rnd) (up : Bool) (s : ServerStream) (p : Packet) (addr : Addr)
    (c : Conn) (hex : clientLookup (addr, p.sourcePort, p.sourceType) s.clients = some c) :
    (s.processConnect env now rnd up p addr).s = s := by
  by_cases hpre : connectPrecheck env s p addr
  · have h := ServerStream.processConnect_valid env now rnd up s p addr hpre
    simp only [hex, Option.getD_some, Option.isNone_some, Bool.false_eq_true, if_false] at h
    split at h
    · rw [h]
    · exact h.1
  · rw [ServerStream.processConnect_invalid env now rnd up s p addr hpre]

/-- the client completes its handshake only on exactly the incremented check value (credentials) / an empty response -/
theorem client_completes_iff (c : Conn) (data : Bytes) :
    c.checkConnectionResponse data = none ↔
      (match c.credentials with
       | some _ => data = u32le 4 ++ u32le ((c.connectionCheck + 1) % 4294967296)
       | none => data = []) :=
  client_response_check c data

/-- **the honest direction, end to end**: credentials holding a reference-built (C16) ticket for the server's key, not older than
    120 s, give a connection request (`build_connection_request`) that the server's login check admits as the ticket's user with
    the ticket's session key — and the response it sends is exactly the one the client's own check accepts. With `admit_iff`
    and `accepted_request_is_valid` this is "admits exactly the holders of a valid, fresh ticket" in both directions. -/
theorem honest_holder_is_admitted (s : Settings) (cfg : Prudp.Cfg) (kc : Nex.Kerberos.Cfg) (epoch : Nat) (tz : Int)
    (key ticketKey : Bytes) (t : Nex.Kerberos.ServerTicket) (tb : Bytes) (c : Conn) (cr : Creds) (now : Time) (ts : Int)
    (hT : Nex.Kerberos.ServerTicket.encrypt kc key ticketKey t = .ok tb)
    (hcreds : c.credentials = some cr) (hint : cr.internal = tb) (hsk : cr.sessionKey = t.sessionKey) (hpid : cr.pid = t.source)
    (hps : s.pidSize = kc.pidSize) (hps' : kc.pidSize = 8 ∨ kc.pidSize = 4)
    (hpr : t.source < (if kc.pidSize = 8 then 18446744073709551616 else 4294967296))
    (hcid : cr.cid < 4294967296) (hchk : c.connectionCheck < 4294967296)
    (hkey : Nex.Kerberos.rc4KeyOk t.sessionKey = true) (htl : tb.length < 4294967296)
    (hts : Nex.DateTime.timestamp tz t.timestamp = .ok ts)
    (hfresh : ¬ ((ts + 120 - (epoch : Int)) * 1073741824 < (now : Int))) :
    let env := mkEnv s cfg kc epoch tz
    ∃ resp, env.loginRequest (c.buildConnectionRequest env) key now = .ok (t.source, cr.cid, t.sessionKey, resp) ∧
      c.checkConnectionResponse resp = none :=
  honest_path s cfg kc epoch tz key ticketKey t tb c cr now ts hT hcreds hint hsk hpid hps hps' hpr hcid hchk hkey htl hts hfresh

/-- **composition with the back-end login (C17)**: whenever `BackEndClient.login` (the `Backend.plan` model) ends in a connection and
    the authentication server followed the protocol (the final ticket is a reference-built server ticket under this server's key for the
    user id of the login response, with the client ticket's session key, not older than 120 s), this server's login check admits the
    connection request built from those credentials as exactly the user id the authentication server issued. -/
theorem backend_login_is_admitted_as_issued_user (bcfg : Backend.Cfg) (a : Backend.Args) (sc : Backend.Script) (c : Backend.Connect)
    (h : (Backend.plan bcfg a sc).outcome = .ok c)
    (s : Settings) (cfg : Prudp.Cfg) (kc : Nex.Kerberos.Cfg) (epoch : Nat) (tz : Int)
    (key ticketKey : Bytes) (t : Nex.Kerberos.ServerTicket) (conn : Conn) (now : Time) (ts : Int)
    (hT : Nex.Kerberos.ServerTicket.encrypt kc key ticketKey t = .ok c.ticket.internal)
    (hsk : c.ticket.sessionKey = t.sessionKey) (hpid : c.pid = t.source)
    (hcreds : conn.credentials = some (credsOfConnect c))
    (hps : s.pidSize = kc.pidSize) (hps' : kc.pidSize = 8 ∨ kc.pidSize = 4)
    (hpr : t.source < (if kc.pidSize = 8 then 18446744073709551616 else 4294967296))
    (hcid : c.cid < 4294967296) (hchk : conn.connectionCheck < 4294967296)
    (hkey : Nex.Kerberos.rc4KeyOk t.sessionKey = true) (htl : c.ticket.internal.length < 4294967296)
    (hts : Nex.DateTime.timestamp tz t.timestamp = .ok ts)
    (hfresh : ¬ ((ts + 120 - (epoch : Int)) * 1073741824 < (now : Int))) :
    let env := mkEnv s cfg kc epoch tz
    ∃ r resp, sc.first = .resp r ∧
      env.loginRequest (conn.buildConnectionRequest env) key now = .ok (r.pid, r.station.cid, t.sessionKey, resp) ∧
      conn.checkConnectionResponse resp = none := by
  obtain ⟨r, ku, k', t1, tf, hfirst, _, _, _, _, rfl, _, _⟩ := Backend.plan_connect_inv bcfg a sc c h
  obtain ⟨resp, h1, h2⟩ := honest_path s cfg kc epoch tz key ticketKey t _ conn (credsOfConnect _) now ts
    hT hcreds rfl hsk hpid hps hps' hpr hcid hchk hkey htl hts hfresh
  have e : t.source = r.pid := hpid.symm
  exact ⟨r, resp, hfirst, e ▸ h1, h2⟩

/-! non-vacuity of `client_completes_iff` with credentials, at the wrap of the check value (0xFFFFFFFF + 1 → 0) -/
example : Conn.checkConnectionResponse
    { (Conn.new C04.toyEnv (some 1) 1 0xFFFFFFFF 3 ("a", 1) 15 10 ("b", 2) 1 10) with credentials := some ⟨1, 2, [], []⟩ }
    (u32le 4 ++ u32le 0) = none := by decide +kernel

/-! ## the server's time zone, daylight saving included (stamp = local civil time; lifetime = real time)

`Zone.localToSeconds` is C15's model of CPython's `local_to_seconds(fold = 0)` behind `DateTime.timestamp()`;
`Zone.zTwo T a b` a zone with one rule change (offset `a` before instant `T`, `b` from `T` on). The L1 model above takes a
fixed offset; these theorems carry the freshness clause across a rule change. Full statement wanted: for every tz-database
zone. Proved: a zone with one rule change altogether, `zTwo T a b` (setting the clock back by at most 24 h); for a zone that shows one rule
change only around the instants involved see `C15.datetime_unix_zone_history`. -/

/-- **a ticket admitted by the freshness test was issued at most 120 s of REAL time ago**, on both sides of and inside a
    repeated / skipped hour: the stamp never decodes to an instant later than the issue instant. -/
theorem dst_admitted_is_fresh_partial (T a b issued now : Int) (hb : a - b ≤ 86400)
    (hadm : ¬ Nex.Zone.localToSeconds (Nex.Zone.zTwo T a b) (Nex.Zone.localOf (Nex.Zone.zTwo T a b) issued) < now - 120) :
    now - issued ≤ 120 := by
  have := C05Dst.decode_le T a b issued hb; omega

/-- a fresh ticket passes the freshness test unless it was stamped during the second pass of a repeated hour -/
theorem dst_fresh_is_admitted (T a b issued now : Int) (hb : a - b ≤ 86400)
    (h : ¬ (T ≤ issued ∧ issued < T + (a - b))) (hf : now - issued ≤ 120) :
    ¬ Nex.Zone.localToSeconds (Nex.Zone.zTwo T a b) (Nex.Zone.localOf (Nex.Zone.zTwo T a b) issued) < now - 120 := by
  rw [C05Dst.decode_eq T a b issued hb, if_neg h]; omega

/-- observation on the code as it is: a ticket stamped during the second pass of a repeated hour (longer than 120 s) is
    refused however fresh it is (the stamp decodes to the first pass). Not a violation of the property's 'only if'. -/
theorem dst_fresh_in_second_pass_refused (T a b issued now : Int) (hb : a - b ≤ 86400)
    (h : T ≤ issued ∧ issued < T + (a - b)) (hd : 120 < a - b) (hn : issued ≤ now) :
    Nex.Zone.localToSeconds (Nex.Zone.zTwo T a b) (Nex.Zone.localOf (Nex.Zone.zTwo T a b) issued) < now - 120 := by
  rw [C05Dst.decode_eq T a b issued hb, if_pos h]; omega

/-- non-vacuity: central Europe, 25 Oct 2026 (clock set back at 01:00 UTC): a ticket issued 30 minutes before the change
    and shown 10 minutes after it is 2400 s old and refused, although its wall-clock stamp (02:30) reads LATER than the
    wall-clock reading of `now - 120` (02:08) - comparing stamps as wall-clock values would admit it. -/
example : let z := Nex.Zone.zTwo 1792890000 7200 3600
    (1792890000 + 600 : Int) - (1792890000 - 1800) = 2400 ∧
    Nex.Zone.localOf z (1792890000 + 600 - 120) ≤ Nex.Zone.localOf z (1792890000 - 1800) ∧
    Nex.Zone.localToSeconds z (Nex.Zone.localOf z (1792890000 - 1800)) < 1792890000 + 600 - 120 :=
  C05Dst.wall_clock_order_admits_stale
/-- the conclusion of `dst_fresh_is_admitted` at a point: a ticket issued 100 s before the change and shown at it passes -/
example : ¬ Nex.Zone.localToSeconds (Nex.Zone.zTwo 1000 7200 3600) (Nex.Zone.localOf (Nex.Zone.zTwo 1000 7200 3600) 900) < 1000 - 120 := by decide +kernel

end Nx.C05
