import NxProofs.Gating
import NxModel.Prudp.L1Crypto
import NxProofs.MacInjective
import NxProofs.CryptoAgree
import NxProofs.Sys
/-!
# C04 — only correctly signed packets can affect a PRUDP connection

Model: L1 endpoint. `Conn.expectedSig env c p` is the signature `PRUDPClient.handle` demands of `p` (by type:
SYN — no keys; CONNECT — the connection signature of the peer's address; anything else — session key and
connection signature). The gate theorems hold for **every** `Env`, i.e. for any signature function: they are
about the order of checks and the absence of side effects before them. That nobody without the keys can produce
the expected value is HMAC-MD5's job (assumption, stated in the manifest), never a Lean hypothesis.
`R.inert r c` : the step returned the connection `c` unchanged and produced no output (nothing emitted, nothing
delivered, no EOF, no timer touched — timers are part of `c`).
-/
namespace Nx.C04
open Nx.Prudp Nx.L1

/-- **v1/v0/lite gate.** Any packet whose signature differs from the expected one — a bit-flipped genuine packet,
    a packet forged with other keys, of any type and flags incl. ACK and MULTI_ACK — is inert. -/
theorem signature_gate (env : Env) (now : Time) (c : Conn) (p : Packet)
    (h : p.signature ≠ c.expectedSig env p) : (c.handle env now p).inert c :=
  handle_bad_signature env now c p h

/-- contrapositive: whatever changes a connection or makes it emit or deliver carried the expected signature -/
theorem effect_implies_signed (env : Env) (now : Time) (c : Conn) (p : Packet)
    (h : ¬ (c.handle env now p).inert c) : p.signature = c.expectedSig env p :=
  Decidable.not_not.mp fun hs => h (handle_bad_signature env now c p hs)

/-- a correctly signed packet with a wrong session id or an out-of-range substream is inert as well — for a packet that is
    neither SYN nor CONNECT and does not carry MULTI_ACK (an aggregate acknowledgement is handled before these two checks) -/
theorem session_substream_gate (env : Env) (now : Time) (c : Conn) (p : Packet)
    (ht : p.type ≠ TYPE_SYN ∧ p.type ≠ TYPE_CONNECT) (hm : hasMultiAck p.flags = false)
    (h : p.substreamId > c.maxSub ∨ some p.sessionId ≠ c.remoteSessionId) : (c.handle env now p).inert c :=
  handle_wrong_session_or_substream env now c p ht hm h

/-- a closed connection ignores everything -/
theorem closed_ignores (env : Env) (now : Time) (c : Conn) (p : Packet) (h : c.state = STATE_DISCONNECTED) :
    (c.handle env now p).inert c ∧ (c.handle env now p).err = none := by
  rw [handle_eq, if_pos h]; exact ⟨⟨rfl, rfl⟩, rfl⟩

/-! **handshake gate, server side.** A SYN or CONNECT with a wrong signature establishes nothing. -/

/-- a SYN whose signature is not the one computed without keys: the server's tables are unchanged and nothing is answered -/
theorem handshake_gate_syn (env : Env) (s : ServerStream) (p : Packet) (addr : Addr)
    (h : p.signature ≠ env.packetSig (select env.cfg.sel p.version) p [] []) :
    (s.processSyn env p addr).s = s ∧ (s.processSyn env p addr).outs = [] := by
  unfold ServerStream.processSyn
  rw [if_pos h]; exact ⟨rfl, rfl⟩

/-- a CONNECT whose signature is not the one computed with the connection signature of its source address: the server's tables
    are unchanged and nothing is answered -/
theorem handshake_gate_connect (env : Env) (now : Time) (rnd : Rnd) (up : Bool) (s : ServerStream) (p : Packet) (addr : Addr)
    (h : p.signature ≠ env.packetSig (select env.cfg.sel p.version) p [] (env.connSig (select env.cfg.sel p.version) addr)) :
    (s.processConnect env now rnd up p addr).s = s ∧ (s.processConnect env now rnd up p addr).outs = [] := by
  rw [ServerStream.processConnect_invalid env now rnd up s p addr fun hv => h hv.1]; exact ⟨rfl, rfl⟩

/-- **handshake gate, client side.** A SYN/ACK or CONNECT/ACK with a wrong signature completes nothing. -/
theorem handshake_gate_client (env : Env) (now : Time) (c : Conn) (p : Packet)
    (ht : p.type = TYPE_SYN ∨ p.type = TYPE_CONNECT) (h : p.signature ≠ c.expectedSig env p) :
    (c.handle env now p).c.state = c.state ∧ (c.handle env now p).c.handshakeEvent = c.handshakeEvent := by
  have := handle_bad_signature env now c p h
  rw [this.1]; exact ⟨rfl, rfl⟩

/-- traffic that names no known connection (spoofed port, unknown peer) creates and changes nothing -/
theorem unknown_peer_inert (env : Env) (now : Time) (rnd : Rnd) (up : Bool) (s : ServerStream) (p : Packet) (addr : Addr)
    (h1 : ¬ (p.type = TYPE_SYN ∧ (!hasAck p.flags) = true)) (h2 : ¬ (p.type = TYPE_CONNECT ∧ (!hasAck p.flags) = true))
    (h : clientLookup (addr, p.sourcePort, p.sourceType) s.clients = none) :
    (s.handle env now rnd up p addr).s = s ∧ (s.handle env now rnd up p addr).outs = [] ∧ (s.handle env now rnd up p addr).err = none :=
  server_unknown_peer env now rnd up s p addr h1 h2 h

/-! ### what the expected signature covers (the concrete signature functions of `L1Crypto`) -/

/-- v0: the signature demanded of a DATA packet is `v0DataSig` (`calc_data_signature`): the first four bytes of the HMAC over
    session key, sequence id, fragment id and payload (signature version 0) resp. over the payload alone (signature version 1),
    or the constant 0x12345678 when that input is empty. The other types: `v0PacketSig` (a DISCONNECT under signature version 0
    is signed the same way; everything else carries the connection signature, or zeros) -/
theorem v0_data_signature_def (v0 : V0Cfg) (p : Packet) (sk cs : Bytes) (h : p.type = TYPE_DATA) :
    packetSigFn v0 .v0 p sk cs = some (v0DataSig v0 p sk) := by
  simp [packetSigFn, v0PacketSig, h]

/-- v1: the MAC input is header[4:] ‖ session key ‖ key sum ‖ connection signature ‖ options ‖ payload -/
theorem v1_signature_def (v0 : V0Cfg) (p : Packet) (sk cs : Bytes) :
    packetSigFn v0 .v1 p sk cs = some (Crypto.hmacMd5 (Crypto.md5 v0.accessKey)
      ((v1EncodeHeader p (v1EncodeOptions p).length).drop 4 ++ sk ++ u32le (L1.sumBytes v0.accessKey) ++ cs ++ v1EncodeOptions p ++ p.payload)) := rfl

/-- **v1: the MAC covers everything the receiver acts on.** The MAC input leaves out the two length fields of the header
    and joins options and payload without a separator; it is injective on decodable packets all the same (the type is
    covered and fixes the length of the option block). Two well-formed packets with the same MAC input under the same
    keys are the same packet up to the signature field — so, HMAC-MD5 being a MAC (assumption), an accepted v1 packet
    agrees with a genuinely signed one on every field: ports, types, flags, session id, substream id, sequence id,
    fragment id, negotiation options, connection signature and payload. -/
theorem v1_mac_covers_everything (accessKey : Bytes) (p q : Packet) (K C : Bytes) (hp : V1WF p) (hq : V1WF q)
    (h : v1MacInput accessKey p K C = v1MacInput accessKey q K C) : { p with signature := q.signature } = q :=
  v1MacInput_injective accessKey p q K C hp hq h

/-- the signature the L1 endpoint demands of a v1 packet is HMAC-MD5 of exactly that input -/
theorem v1_expected_signature_is_mac (v0 : V0Cfg) (p : Packet) (sk cs : Bytes) :
    packetSigFn v0 .v1 p sk cs = some (Crypto.hmacMd5 (Crypto.md5 v0.accessKey) (v1MacInput v0.accessKey p sk cs)) :=
  congrArg some ((v1PacketSig_agree v0.accessKey p sk cs).trans (v1PacketSignature_eq v0.accessKey p sk cs))

/-! non-vacuity of `v1_mac_covers_everything`: two distinct well-formed DATA packets (they differ in the fragment id only);
    their MAC inputs differ, as the theorem demands -/
example :
    let p : Packet := { type := 2, flags := 2, version := some 1, sourceType := 10, sourcePort := 15, destType := 10, destPort := 1,
                        sessionId := 7, packetId := 5, fragmentId := 1, signature := some (List.replicate 16 0), payload := [1, 2, 3] }
    let q : Packet := { p with fragmentId := 2 }
    V1WF p ∧ V1WF q ∧ v1MacInput [0x61] p [] [] ≠ v1MacInput [0x61] q [] [] := by decide +kernel

/-- an environment for the examples: the signature expected of a packet is the low byte of its sequence id, whatever the keys;
    no compression, every login refused -/
def toyEnv : Env :=
  { s := {}, cfg := {}, packetSig := fun _ p _ _ => some [b8 p.packetId], connSig := fun _ _ => [7],
    kerbEncrypt := fun _ d => d, loginRequest := fun _ _ _ => .error .value, compress := id, decompress := fun b => .ok b }

/-! non-vacuity of `signature_gate`: a connection and two packets, one that meets the hypothesis (wrong signature) and one that
    does not -/
example :
    let c := Conn.new toyEnv (some 1) 1 2 3 ("10.0.0.2", 1) 15 10 ("10.0.0.1", 2) 1 10
    let bad : Packet := { type := TYPE_PING, flags := 6, packetId := 5, signature := some [9] }
    let good : Packet := { type := TYPE_PING, flags := 6, packetId := 5, signature := some [5] }
    bad.signature ≠ c.expectedSig toyEnv bad ∧ good.signature = c.expectedSig toyEnv good := by decide +kernel

/-! ## the same, for whole sessions: forged packets can be deleted from any history without changing anything -/

def isInject : SysOp → Bool
  | .inject _ _ => true
  | _ => false

/-- **Non-interference over whole sessions.** Take any history of the two-endpoint system (sends fragment by fragment,
    pings, disconnect, deliveries in any order and multiplicity through the whole receive path, acknowledgements, timers,
    traffic of the other direction and other substreams) interleaved with arbitrarily many packets — of any type, flags, ids
    and payload — whose signature is not the one the receiver expects at that moment. The final state of BOTH endpoints, the
    network log, what was accepted and what was delivered are exactly those of the history with the forged packets deleted;
    and the step hypotheses of the genuine steps are not affected by the deletion either. -/
theorem forged_packets_can_be_deleted (env : Env) (sub : Nat) : ∀ (ops : List SysOp) (s : Sys), Sys.runOk env sub s ops = true →
    Sys.run env sub s ops = Sys.run env sub s (ops.filter (fun o => !isInject o)) ∧
    Sys.runOk env sub s (ops.filter (fun o => !isInject o)) = true :=
  run_filter env sub isInject fun s op hi hok => by
    cases op with
    | inject now p =>
      simp only [Sys.opOk, decide_eq_true_eq] at hok
      simp only [Sys.step, (handle_bad_signature env now s.b p hok).1]
    | _ => cases hi

end Nx.C04
