import NxProofs.Negotiation
/-!
# C06 — the handshake negotiates the meet of both sides' capabilities, and both sides agree

Model: L1 endpoint (`NxModel/Prudp/{Conn,Endpoint}.lean`): `ServerStream.processSyn/processConnect`
(= `PRUDPServerStream.process_syn/process_connect`), `Conn.processSyn/processConnect/send`
(= `PRUDPClient.process_syn/process_connect/send`). The theorems hold for every `Env` (any signature functions).
`Conn.params c = (minor version, max substream id, supported functions)` is what the endpoint reports.
`subsetBits a b` is the code's `a & ~b == 0`.
-/
namespace Nx.C06
open Nx.Prudp Nx.L1

/-- the server's SYN/ACK carries (min, min, AND) of its configuration and the offer; answering changes no server state -/
theorem synack_is_meet (env : Env) (s : ServerStream) (p : Packet) (addr to : Addr) (ack : Packet) (d : Bytes)
    (h : (s.processSyn env p addr).outs = [.emit to ack d]) :
    ack.maxSubstreamId = min s.maxSub p.maxSubstreamId ∧ ack.minorVersion = min s.minorVer p.minorVersion ∧
    ack.supportedFunctions = s.supFuncs &&& p.supportedFunctions ∧ ack.type = TYPE_SYN ∧ ack.flags = FLAG_ACK ∧
    to = addr ∧ (s.processSyn env p addr).s = s := by
  rcases ServerStream.processSyn_cases env s p addr with ⟨e, he⟩ | ⟨ack', d', h1, h2, h3, h4, h5, he⟩
  · rw [he] at h; cases h
  · rw [he] at h ⊢
    cases h
    exact ⟨h1, h2, h3, h4, h5, rfl, rfl⟩

/-- a client never accepts parameters exceeding its own offer: such a SYN/ACK leaves it unchanged -/
theorem no_upgrade (env : Env) (now : Time) (c : Conn) (p : Packet)
    (h : p.maxSubstreamId > c.maxSub ∨ p.minorVersion > c.minorVer ∨ ¬ subsetBits p.supportedFunctions c.supFuncs) :
    (c.processSyn env now p).c = c ∧ (c.processSyn env now p).outs = [] ∧ (c.processSyn env now p).err = some .value := by
  have hv : ¬ c.synValid env p := fun ⟨_, _, _, a, b, s⟩ => h.elim (by omega) (·.elim (by omega) (· s))
  rw [Conn.processSyn_invalid env now c p hv]
  exact ⟨rfl, rfl, rfl⟩

/-- an accepted SYN/ACK is adopted exactly, and is within the offer -/
theorem client_accepts_only_leq (env : Env) (now : Time) (c : Conn) (p : Packet) (h : Nat)
    (hp : ackLookup (ackKeyOf p) c.ackEvents = some h) (hok : (c.processSyn env now p).err = none) :
    (c.processSyn env now p).c.params = (p.minorVersion, p.maxSubstreamId, p.supportedFunctions) ∧
    p.maxSubstreamId ≤ c.maxSub ∧ p.minorVersion ≤ c.minorVer ∧ subsetBits p.supportedFunctions c.supFuncs := by
  by_cases hv : c.synValid env p
  · refine ⟨?_, hv.2.2.2⟩
    rw [Conn.processSyn_valid env now c p hv, hp, if_pos Option.isSome_some, sendConnect_params]
    rfl
  · rw [Conn.processSyn_invalid env now c p hv] at hok; cases hok

/-- the client completes its handshake only on an exact echo of the agreed parameters -/
theorem connect_echo_exact (env : Env) (c : Conn) (p : Packet)
    (h0 : c.handshakeEvent = false) (h1 : (c.processConnect env p).c.handshakeEvent = true) :
    (p.minorVersion, p.maxSubstreamId, p.supportedFunctions) = c.params := by
  by_cases hv : c.connectValid env p
  · obtain ⟨e1, e2, e3⟩ := hv.2.2.2
    rw [e1, e2, e3]; rfl
  · rw [Conn.processConnect_invalid env c p hv] at h1
    exact absurd (h0.symm.trans h1) (by decide)

/-- the server-side connection is configured with exactly what the CONNECT carries, never above the server's own -/
theorem server_adopts_connect (env : Env) (now : Time) (rnd : Rnd) (up : Bool) (s : ServerStream) (p : Packet) (addr : Addr)
    (hnew : clientLookup (addr, p.sourcePort, p.sourceType) s.clients = none) (c' : Conn)
    (hreg : clientLookup (addr, p.sourcePort, p.sourceType) (s.processConnect env now rnd up p addr).s.clients = some c') :
    c'.params = (p.minorVersion, p.maxSubstreamId, p.supportedFunctions) ∧
    p.maxSubstreamId ≤ s.maxSub ∧ p.minorVersion ≤ s.minorVer ∧ subsetBits p.supportedFunctions s.supFuncs := by
  obtain ⟨⟨_, _, h3⟩, c, resp, hl, rfl⟩ := server_registered env now rnd up s p addr hnew c' hreg
  refine ⟨?_, by omega, by omega, by unfold subsetBits; omega⟩
  cases hk : s.key with
  | none => rw [loginStep_none env now s p _ _ hk] at hl; cases hl; rfl
  | some key =>
    rw [loginStep_some env now s p _ _ key hk] at hl
    split at hl
    · cases hl
    · cases hl; rfl

/-- **Agreement.** Take any server stream `s`, any client connection `c` waiting for its SYN/ACK, the SYN `syn` that
    carries the client's configuration, the server's answer `ack` to it, and a CONNECT `con` that carries what the
    client holds after accepting `ack`. If the server registers a connection for `con`, then the client and the
    server-side connection report the same parameters, and these are (min, min, AND) of the two configurations. -/
theorem C06_agree (envS envC : Env) (now now' : Time) (rnd : Rnd) (up : Bool)
    (s : ServerStream) (c : Conn) (syn ack con : Packet) (caddr to : Addr) (d : Bytes) (h : Nat) (cs : Conn)
    (hsyn : (syn.minorVersion, syn.maxSubstreamId, syn.supportedFunctions) = c.params)
    (hack : (s.processSyn envS syn caddr).outs = [.emit to ack d])
    (hpend : ackLookup (ackKeyOf ack) c.ackEvents = some h)
    (hacc : (c.processSyn envC now ack).err = none)
    (hcon : (con.minorVersion, con.maxSubstreamId, con.supportedFunctions) = (c.processSyn envC now ack).c.params)
    (hnew : clientLookup (caddr, con.sourcePort, con.sourceType) s.clients = none)
    (hreg : clientLookup (caddr, con.sourcePort, con.sourceType) (s.processConnect envS now' rnd up con caddr).s.clients = some cs) :
    cs.params = (c.processSyn envC now ack).c.params ∧
    cs.params = (min s.minorVer c.minorVer, min s.maxSub c.maxSub, s.supFuncs &&& c.supFuncs) := by
  obtain ⟨a1, a2, a3, _⟩ := synack_is_meet envS s syn caddr to ack d hack
  obtain ⟨b1, _⟩ := client_accepts_only_leq envC now c ack h hpend hacc
  obtain ⟨c1, _⟩ := server_adopts_connect envS now' rnd up s con caddr hnew cs hreg
  simp only [Conn.params, Prod.mk.injEq] at hsyn
  obtain ⟨s1, s2, s3⟩ := hsyn
  refine ⟨by rw [c1, hcon], ?_⟩
  rw [c1, hcon, b1, a1, a2, a3, s1, s2, s3]

/-- sending beyond the negotiated maximum is refused and changes nothing -/
theorem substream_bound (env : Env) (now : Time) (c : Conn) (data : Bytes) (sub : Nat)
    (hs : c.state = STATE_CONNECTED) (h : sub > c.maxSub) :
    (c.send env now data sub).c = c ∧ (c.send env now data sub).outs = [] ∧ (c.send env now data sub).err = some .value := by
  unfold Conn.send
  rw [if_neg (by simp [hs]), if_pos h]
  exact ⟨rfl, rfl, rfl⟩

/-- the meet never exceeds either side (so an honest SYN/ACK is always acceptable to the client that made the offer) -/
theorem meet_within_offer (sm ss sf cm cs cf : Nat) :
    min ss cs ≤ cs ∧ min sm cm ≤ cm ∧ subsetBits (sf &&& cf) cf ∧ min ss cs ≤ ss ∧ min sm cm ≤ sm ∧ subsetBits (sf &&& cf) sf :=
  ⟨Nat.min_le_right _ _, Nat.min_le_right _ _, and_subset_right sf cf, Nat.min_le_left _ _, Nat.min_le_left _ _, and_subset_left sf cf⟩

/-! `subsetBits` separates: it holds of a subset of the mask and fails for a bit outside it (the two sides of `no_upgrade` /
    `client_accepts_only_leq`); then the meet of `synack_is_meet` on numbers. Nothing here instantiates the hypotheses of `C06_agree`:
    a run in which a server answers a SYN, the client accepts the SYN/ACK and the server registers the CONNECT is
    `Nx.C01.handshakeRun`, evaluated in `NxProps/C01.lean`. -/
example : subsetBits 0x0F 0xFF ∧ ¬ subsetBits 0x100000 0x0F := by unfold subsetBits; decide
example : min 3 6 = 3 ∧ (0xA5A5A5 &&& 0x0F : Nat) = 5 := by decide

end Nx.C06
