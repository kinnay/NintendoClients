import NxProofs.Switch
import NxProofs.SwitchTicket
/-!
# C18 — every supported console version yields well-formed, era-consistent requests

Model: `NxModel/Switch/{Http,Tables,Clients,All,Errors,Checks}.lean`.  `Tables` are the per-version dict
literals of the seven clients; the theorems hold for **every** `Tables` satisfying the named Bool checkers,
and the generated file (`tools/switch_tables.py`, re-made from the working tree on every run) proves those
checkers for the translated tables by `decide +kernel`, transfers them to the decoded tables with the lifting
lemmas (`Coded.decode_keys`, `apiEra_of_coded`, `templatesOk_of_coded`, `languages_of_coded`) and instantiates the theorems.
Lemmas: `NxProofs/Switch.lean`, `NxProofs/SwitchTicket.lean`.
The sections carry the names of the five clauses of the property (DESIGN §5, C18).

Modelled as repaired: nothing.  (The `LANGUAGES` defect D10 is *not* built into the model: the list is a
translated table, and `languages_documented` is the obligation that fails on the unrepaired tree.)
-/
namespace Nx.C18
open Nx.Http Nx.Switch

/-! ## set_version_atomic -/

/-- An unknown version is refused (`ValueError`) and leaves the client unchanged; a known one takes every
    dependent field from that version's row — for all seven clients, given equal key sets. -/
theorem set_version_atomic (T : Tables) (h : T.keys.sameSets = true) (v : Nat) :
    (dictHas T.fw v = false ∧
      (∀ s, Dauth.setVersion T s v = (s, some .value)) ∧ (∀ s, Aauth.setVersion T s v = (s, some .value)) ∧
      (∀ s, Baas.setVersion T s v = (s, some .value)) ∧ (∀ s, Five.setVersion T s v = (s, some .value)) ∧
      (∀ s, Dragons.setVersion T s v = (s, some .value)) ∧ (∀ s, Nim.setVersion T s v = (s, some .value))) ∨
    (dictHas T.fw v = true ∧
      (∀ s : Dauth, ∃ ua d k a, dictGet T.dauthUA v = some ua ∧ dictGet T.digest v = some d ∧ dictGet T.keygen v = some k ∧
        dictGet T.dauthApi v = some a ∧
        Dauth.setVersion T s v = ({ s with version := v, ua := ua, digest := d, keygen := k, api := a }, none)) ∧
      (∀ s : Aauth, ∃ ua a, dictGet T.aauthUA v = some ua ∧ dictGet T.aauthApi v = some a ∧
        Aauth.setVersion T s v = ({ s with version := v, ua := ua, api := a }, none)) ∧
      (∀ s : Baas, ∃ ua, dictGet T.baasUA v = some ua ∧ Baas.setVersion T s v = ({ s with version := v, ua := ua }, none)) ∧
      (∀ s : Five, ∃ ua, dictGet T.fiveUA v = some ua ∧ Five.setVersion T s v = ({ s with version := v, ua := ua }, none)) ∧
      (∀ s : Dragons, ∃ fw ua, dictGet T.fw v = some fw ∧ dictGet T.dauthUA v = some ua ∧
        Dragons.setVersion T s v =
          ({ s with version := v, uaNim := (match s.deviceId with | some d => some (nimUA fw d) | none => s.uaNim), uaDauth := ua }, none)) ∧
      (∀ s : Nim, ∃ fw, dictGet T.fw v = some fw ∧ Nim.setVersion T s v = ({ s with ua := nimUA fw s.deviceId }, none))) := by
  have K := keysAgree_of_sameSets T h
  cases hv : dictHas T.fw v with
  | false =>
    exact .inl ⟨rfl, fun s => dauth_setVersion_unknown T s v ((K.dauthUA v).trans hv),
      fun s => aauth_setVersion_unknown T s v ((K.aauthUA v).trans hv), fun s => baas_setVersion_unknown T s v ((K.baasUA v).trans hv),
      fun s => five_setVersion_unknown T s v ((K.fiveUA v).trans hv), fun s => dragons_setVersion_unknown T s v hv,
      fun s => nim_setVersion_unknown T s v hv⟩
  | true =>
    obtain ⟨r, R⟩ := K.rowAt hv
    exact .inr ⟨rfl, fun s => ⟨_, _, _, _, R.dauthUA, R.digest, R.keygen, R.dauthApi, dauth_setVersion_known R s⟩,
      fun s => ⟨_, _, R.aauthUA, R.aauthApi, aauth_setVersion_known R s⟩, fun s => ⟨_, R.baasUA, baas_setVersion_known R s⟩,
      fun s => ⟨_, R.fiveUA, five_setVersion_known R s⟩, fun s => ⟨_, _, R.fw, R.dauthUA, dragons_setVersion_known R s⟩,
      fun s => ⟨_, R.fw, nim_setVersion_known R.fw s⟩⟩

/-- The key-set hypothesis is needed: with a version present in `USER_AGENT` only, the code raises `KeyError`
    after two attributes were already overwritten. -/
theorem set_version_partial_update_counterexample :
    Dauth.setVersion raggedTables raggedStart 2 = ({ raggedStart with version := 2, ua := "ua2" }, some .key) := by
  decide

/-! ## shape_changes_only_at_boundaries -/

/-- For supported versions `v₁ ≤ v₂` with none of 13.0.0, 15.0.0, 18.0.0, 19.0.0 in `(v₁, v₂]`, every public call of every
    client (construct, `set_system_version`, call) either fails identically or issues requests with the same method,
    header-name sequence, query-parameter keys and body keys — on tables with equal key sets, API numbers that are constant
    between boundaries (`eraConstant`) and baas user-agent templates that format (`TemplatesOk`). -/
theorem shape_changes_only_at_boundaries (T : Tables) (hk : T.keys.sameSets = true)
    (hd : eraConstant T.dauthApi = true) (ha : eraConstant T.aauthApi = true) (ht : TemplatesOk T)
    (v₁ v₂ : Nat) (hle : v₁ ≤ v₂) (hb : noBoundary v₁ v₂ = true)
    (h₁ : dictHas T.fw v₁ = true) (h₂ : dictHas T.fw v₂ = true) (c : AnyCall) :
    shapes (requestsAt T v₁ c) = shapes (requestsAt T v₂ c) :=
  requestsAt_shape T (keysAgree_of_sameSets T hk) hd ha ht hle hb h₁ h₂ c

/-- the boundaries are real: the dauth header order differs across 18.0.0 (so the theorem is not vacuous) -/
example : shapes (Dauth.call { version := 1701, ua := "u", digest := "d", keygen := 17, api := 7 } .challenge) ≠
    shapes (Dauth.call { version := 1800, ua := "u", digest := "d", keygen := 17, api := 7 } .challenge) := by decide +kernel

example : noBoundary 1700 1701 = true ∧ noBoundary 1701 1800 = false ∧ noBoundary 1300 1412 = true := by decide +kernel

/-! ## values_are_that_versions -/

/-- dauth: API version in both paths, key generation in both forms, the digest in the token form, that version's
    user agent before 18.0.0 and the 18.0.0+ header order after. -/
theorem values_are_that_versions_dauth (T : Tables) (h : T.keys.sameSets = true) (s₀ : Dauth) (v : Nat) (hv : dictHas T.fw v = true)
    (cid : Nat) (ch mac : String) :
    ∃ ua d k a, dictGet T.dauthUA v = some ua ∧ dictGet T.digest v = some d ∧ dictGet T.keygen v = some k ∧
      dictGet T.dauthApi v = some a ∧
      ∃ r₁ r₂, (Dauth.setVersion T s₀ v).1.call (.deviceToken cid ch mac) = .ok [r₁, r₂] ∧
        r₁.2.path = "/v" ++ dec a ++ "/challenge" ∧ formFieldsOf r₁.2 = [("key_generation", some (dec k))] ∧
        r₂.2.path = "/v" ++ dec a ++ "/device_auth_token" ∧
        ("key_generation", some (dec k)) ∈ formFieldsOf r₂.2 ∧ ("system_version", some d) ∈ formFieldsOf r₂.2 ∧
        (v < 1800 → ("User-Agent", ua) ∈ r₁.2.headers ∧ ("User-Agent", ua) ∈ r₂.2.headers) ∧
        (v ≥ 1800 → r₁.2.headers.map (·.1) = ["Host", "Accept", "Content-Type", "X-Nintendo-PowerState", "Content-Length"]) := by
  obtain ⟨r, R⟩ := (keysAgree_of_sameSets T h).rowAt hv
  refine ⟨_, _, _, _, R.dauthUA, R.digest, R.keygen, R.dauthApi, ?_⟩
  rw [dauth_setVersion_known R]
  refine ⟨_, _, rfl, ?_⟩
  by_cases hlt : v < 1800 <;> simp [Dauth.challengeReq, Dauth.headers, Dauth.tokenForm, formFieldsOf, sv, hlt]

/-- aauth: API version in the path, the key `media_type` / `auth_type` (from API 5) chosen by that API version, that version's
    user agent before 18.0.0. -/
theorem values_are_that_versions_aauth (T : Tables) (h : T.keys.sameSets = true) (s₀ : Aauth) (v : Nat) (hv : dictHas T.fw v = true)
    (title ver : Nat) (tok : String) :
    ∃ ua a, dictGet T.aauthUA v = some ua ∧ dictGet T.aauthApi v = some a ∧
      ∃ r, (Aauth.setVersion T s₀ v).1.call (.authSystem title ver tok) = .ok [r] ∧
        r.2.path = "/v" ++ dec a ++ "/application_auth_token" ∧
        ((if a < 5 then "media_type" else "auth_type"), some "SYSTEM") ∈ formFieldsOf r.2 ∧
        (v < 1800 → ("User-Agent", ua) ∈ r.2.headers) := by
  obtain ⟨r, R⟩ := (keysAgree_of_sameSets T h).rowAt hv
  refine ⟨_, _, R.aauthUA, R.aauthApi, ?_⟩
  rw [aauth_setVersion_known R]
  refine ⟨_, rfl, ?_⟩
  by_cases hlt : v < 1800 <;> simp [Aauth.authPath, Aauth.headers, Aauth.authBase, Aauth.authTypeKey, formFieldsOf, sv, hlt]

/-- five: every request of every call carries that version's user agent. -/
theorem values_are_that_versions_five (T : Tables) (h : T.keys.sameSets = true) (s₀ : Five) (v : Nat) (hv : dictHas T.fw v = true)
    (c : FiveCall) (r : List Sent) (hr : Five.call T (Five.setVersion T s₀ v).1 c = .ok r) :
    ∃ ua, dictGet T.fiveUA v = some ua ∧ ∀ x ∈ r, ("User-Agent", ua) ∈ x.2.headers := by
  obtain ⟨_, R⟩ := (keysAgree_of_sameSets T h).rowAt hv
  rw [five_setVersion_known R] at hr
  exact ⟨_, R.fiveUA, five_call_ua T _ c r hr⟩

/-- sun / atumn: every request carries `NintendoSDK Firmware/<that version's firmware string> (…did:<device id>…)` -/
theorem values_are_that_versions_nim (T : Tables) (s₀ : Nim) (v : Nat) (hv : dictHas T.fw v = true) :
    ∃ fw, dictGet T.fw v = some fw ∧
      (∀ c r, (Nim.setVersion T s₀ v).1.sunCall c = .ok r → ∀ x ∈ r, ("User-Agent", nimUA fw s₀.deviceId) ∈ x.2.headers) ∧
      (∀ c r, (Nim.setVersion T s₀ v).1.atumnCall c = .ok r → ∀ x ∈ r, ("User-Agent", nimUA fw s₀.deviceId) ∈ x.2.headers) := by
  obtain ⟨fw, h1⟩ := dictGet_some_of_has hv
  refine ⟨fw, h1, ?_, ?_⟩ <;> rw [nim_setVersion_known h1] <;> intro c r hr <;> cases c <;> cases hr <;>
    simp only [Nim.atumnHeaders, List.mem_cons, List.not_mem_nil, or_false, forall_eq_or_imp, forall_eq, true_or, or_true, and_self]
/- baas and dragons: the user agent is `table[v] % module` resp. the firmware string; covered by `set_version_atomic`
   (the state fields) plus the byte-exact correspondence, no separate theorem. -/

/-! ## validation_exact -/

/-- `send_invitation` issues its request iff ≤ 16 receivers, every message language is in `LANGUAGES` and shorter than
    0xC0 characters, and the application data is at most 0x400 bytes; otherwise `ValueError` and nothing is sent. -/
theorem send_invitation_validation_exact (T : Tables) (s : Five) (tok : String) (recv : List Nat) (a g : Nat) (data : Bytes)
    (msgs : List (String × String)) (m : Bool) (acd : Nat) :
    (∃ r, Five.call T s (.sendInvitation tok recv a g data msgs m acd) = .ok r) ↔
      recv.length ≤ 16 ∧ (∀ p ∈ msgs, p.1 ∈ T.languages ∧ p.2.length < 0xC0) ∧ data.length ≤ 0x400 := by
  rw [← sendInvitationValid_iff]
  simp only [Five.call]
  cases sendInvitationValid T.languages recv msgs data <;> simp

/-- no `FiveClient` call raises anything but `ValueError` before it sends -/
theorem five_refusal_is_value_error (T : Tables) (s : Five) (c : FiveCall) (e : Err) (h : Five.call T s c = .error e) : e = .value := by
  cases c <;> simp [Five.call] at h
  split at h <;> simp_all

/-- with the documented list: exactly the 16 documented language tags are accepted -/
theorem send_invitation_accepts_documented (T : Tables) (hl : T.languages = documentedLanguages) (s : Five) (tok lang msg : String)
    (hm : msg.length < 0xC0) :
    (∃ r, Five.call T s (.sendInvitation tok [1] 1 1 [] [(lang, msg)] false 0) = .ok r) ↔ lang ∈ documentedLanguages := by
  rw [send_invitation_validation_exact, hl]; simp [hm]

example : "nl" ∈ documentedLanguages ∧ "fr-CA" ∈ documentedLanguages ∧ "nlfr-CA" ∉ documentedLanguages := by decide +kernel

/-- the message limit is a limit in CHARACTERS (code points), whatever character is used and whatever the size of the
    encoded text is: `n` copies of any character `c` are accepted iff `n < 0xC0` (tie: harness/c18_unicode.py runs the
    width grid - 1-, 2-, 3-, 4-byte characters at every count where characters / UTF-8 bytes / UTF-16 units cross 0xC0 -
    on the real client and on this model) -/
theorem send_invitation_limit_counts_characters (T : Tables) (hl : T.languages = documentedLanguages) (s : Five)
    (tok lang : String) (c : Char) (n : Nat) :
    (∃ r, Five.call T s (.sendInvitation tok [1] 1 1 [] [(lang, String.ofList (List.replicate n c))] false 0) = .ok r) ↔
      lang ∈ documentedLanguages ∧ n < 0xC0 := by
  rw [send_invitation_validation_exact, hl]; simp [String.length_ofList]

/-- non-trivial point: 0xBF four-byte characters (0x2FC bytes of UTF-8) are below the limit, 0x30 of them already are 0xC0 bytes -/
example : (String.ofList (List.replicate 0xBF (Char.ofNat 0x1F600))).utf8ByteSize = 0x2FC ∧ (String.ofList (List.replicate 0x30 (Char.ofNat 0x1F600))).utf8ByteSize = 0xC0 := by
  decide +kernel

/-- a tag that merely folds / normalises to a documented one is not documented: Kelvin sign + `o`, full-width `ja`,
    `es-` + Arabic-Indic 419, `zh` + U+2010 + `Hans` -/
example : "\u212Ao" ∉ documentedLanguages ∧ "\uFF4A\uFF41" ∉ documentedLanguages ∧ "es-\u0664\u0661\u0669" ∉ documentedLanguages ∧
    "zh\u2010Hans" ∉ documentedLanguages := by decide +kernel

/-- baas `login`: `na_country` is required from 18.0.0 on and only then -/
theorem login_country_required_iff (v id : Nat) (pw acc : String) (app country : Option String) (skip : Bool) :
    (∃ p, Baas.plan v (.login id pw acc app country skip) = .ok p) ↔ (v < 1800 ∨ country.isSome) := by
  by_cases h : v ≥ 1800 <;> cases country <;> simp [Baas.plan, h] <;> omega

/-- aauth `auth_digital`: API 3 accepts exactly a verified raw ticket, API ≥ 4 exactly a string with two dots -/
theorem auth_digital_cert_exact (api title : Nat) (cert : Cert) (ec ek : String) :
    (∃ r, digitalCert api title cert ec ek = .ok r) ↔
      (api = 3 ∧ ∃ b, cert = .bytes b ∧ ticketOk b title = true) ∨ (api ≥ 4 ∧ tokenOk cert = true) ∨ api < 3 := by
  by_cases h3 : api = 3
  · subst h3
    cases cert with
    | bytes b => by_cases ht : ticketOk b title = true <;> simp [digitalCert, ht]
    | str c => by_cases hl : c.length = 704 <;> simp [digitalCert, hl]
  · by_cases h4 : api ≥ 4
    · cases cert with
      | bytes b => simp [digitalCert, h3, h4, tokenOk]; omega
      | str c => by_cases ht : tokenOk (.str c) = true <;> simp [digitalCert, h3, h4, ht] <;> omega
    · simp [digitalCert, h3, h4]; omega

/-- `verify_ticket` byte by byte: a raw ticket is accepted iff it has 0x2C0 bytes, starts with `04 00 01 00` (signature
    type 0x10004, little endian), carries the title id big-endian at 0x2A0..0x2A7, has zeros at 0x2A8..0x2AE and its byte
    0x2AF (end of the rights id) equals the master key revision byte 0x285 -/
theorem ticket_validation_bytewise (t : Bytes) (titleId : Nat) : ticketOk t titleId = true ↔ ticketBytesOk t titleId :=
  ticketOk_iff_bytes t titleId

/-- every byte the check covers matters: a ticket that differs from an accepted one in exactly one of the bytes
    0..3, 0x285, 0x2A0..0x2AF is refused -/
theorem ticket_single_byte_mutation_refused (t t' : Bytes) (titleId i : Nat)
    (hi : i < 4 ∨ i = 0x285 ∨ (0x2A0 ≤ i ∧ i < 0x2B0)) (hok : ticketOk t titleId = true)
    (hdiff : t'.getD i 0 ≠ t.getD i 0) (hsame : ∀ j, j ≠ i → t'.getD j 0 = t.getD j 0) :
    ticketOk t' titleId = false := by
  refine Bool.eq_false_iff.mpr fun h' => hdiff ?_
  obtain ⟨_, h, hr'⟩ := (ticketOk_iff_of_accepted hok t').mp h'
  have hr := ((ticketOk_iff_of_accepted hok t).mp hok).2.2
  -- a fixed byte agrees outright; either byte of the revision pair is determined by the other, which did not change
  by_cases h5 : i = 0x285
  · rw [h5, ← hr', hsame 0x2AF (by omega), hr]
  · by_cases hF : i = 0x2AF
    · rw [hF, hr', hsame 0x285 (by omega), hr]
    · exact h i (by omega)

/-- the joint change of the revision byte and the last rights-id byte to one value keeps a ticket accepted -/
theorem ticket_consistent_revision_change_accepted (t t' : Bytes) (titleId : Nat) (x : UInt8)
    (hok : ticketOk t titleId = true) (hlen : t'.length = t.length) (h1 : t'.getD 0x285 0 = x) (h2 : t'.getD 0x2AF 0 = x)
    (hsame : ∀ j, j ≠ 0x285 → j ≠ 0x2AF → t'.getD j 0 = t.getD j 0) : ticketOk t' titleId = true :=
  (ticketOk_iff_of_accepted hok t').mpr ⟨hlen, fun i hi => hsame i (by omega) (by omega), h2.trans h1.symm⟩

-- the hypotheses are satisfiable: an accepted ticket, and the same ticket with byte 0x2A8 set (refused)
example : ticketOk (sampleTicket 0) 0x0100ABCD12345000 = true ∧ ticketOk (sampleTicket 1) 0x0100ABCD12345000 = false ∧
    (sampleTicket 1).getD 0x2A8 0 ≠ (sampleTicket 0).getD 0x2A8 0 :=
  ⟨sampleTicket_accepted, sampleTicket_refused, by decide +kernel⟩

/-- dragons: on a client without a nim user agent (constructed without a device id) every call but
    `contents_authorization_token_for_aauth` is refused (`ValueError`) … -/
theorem dragons_device_id_required (s : Dragons) (hn : s.uaNim = none) (c : DragonsCall) :
    (∃ tok eid na title, c = .contentsAuthorizationTokenForAauth tok eid na title) ∨ s.call c = .error .value := by
  cases c <;> simp [Dragons.call, Dragons.send, hn]

/-- … and that call issues its request iff the system version is at least 15.0.0 -/
theorem dragons_contents_token_since_15 (s : Dragons) (tok eid : String) (na title : Nat) :
    (∃ r, s.call (.contentsAuthorizationTokenForAauth tok eid na title) = .ok r) ↔ s.version ≥ 1500 := by
  by_cases h : s.version < 1500 <;> simp [Dragons.call, h] <;> omega

/-! ## error_mapping -/

/-- no JSON body: success returns, any other status class raises `HTTPResponseError` — all seven clients -/
theorem error_mapping_bare (c : Client) (status : Nat) :
    classify c ⟨status, none⟩ = if isSuccess status then .ok none else .httpError status := by
  cases c <;> simp [classify, classifyDauth, classifyAauth, classifyErrors, classifyBaas, classifyFive, classifyDragons, classifySun, classifyAtumn, finish]

/-- dauth / aauth: a well-formed error document raises the typed error with entry 0's code (`int(code)`), whatever the status -/
theorem error_mapping_dauth_aauth (status : Nat) (fields e : List (String × J)) (rest : List J) (code : Int) (msg : J)
    (hk : (J.obj fields).get? "errors" = some (.arr (J.obj e :: rest)))
    (hrest : ∀ x ∈ rest, ∃ f, x = J.obj f ∧ ((J.obj f).get? "code").isSome ∧ ((J.obj f).get? "message").isSome)
    (hc : ((J.obj e).get? "code").bind J.toInt? = some code) (hm : (J.obj e).get? "message" = some msg) :
    classify .dauth ⟨status, some (.obj fields)⟩ = .typed (.num code) msg ∧
    classify .aauth ⟨status, some (.obj fields)⟩ = .typed (.num code) msg :=
  have h := classifyErrors_typed status fields e rest code msg hk hrest hc hm
  ⟨h, h⟩

/-- baas: a document with `errorCode` and the five other members `BAASError` reads raises it with `errorCode` as code and `title`
    as message, whatever the status -/
theorem error_mapping_baas (status : Nat) (fields : List (String × J)) (ty code title detail st inst : J)
    (h1 : (J.obj fields).get? "type" = some ty) (h2 : (J.obj fields).get? "errorCode" = some code)
    (h3 : (J.obj fields).get? "title" = some title) (h4 : (J.obj fields).get? "detail" = some detail)
    (h5 : (J.obj fields).get? "status" = some st) (h6 : (J.obj fields).get? "instance" = some inst) :
    classify .baas ⟨status, some (.obj fields)⟩ = .typed code title := by
  obtain ⟨a, b⟩ := get?_some_contains h2
  simp [classify, classifyBaas, a, b, h1, h2, h3, h4, h5, h6]

/-- five: `{"error": {"code": …, "message": …}}` raises `FiveError` with `int(code)`, whatever the status -/
theorem error_mapping_five (status : Nat) (fields e : List (String × J)) (code : Int) (msg : J)
    (hk : (J.obj fields).get? "error" = some (.obj e))
    (hc : ((J.obj e).get? "code").bind J.toInt? = some code) (hm : (J.obj e).get? "message" = some msg) :
    classify .five ⟨status, some (.obj fields)⟩ = .typed (.num code) msg := by
  obtain ⟨a, b⟩ := get?_some_contains hk
  simp [classify, classifyFive, a, b, hk, hc, hm]

/-- dragons tests `response.error()` first: on a failure status a problem document with a string `type`, `title`, `detail`
    and `number` raises `DragonsError` (`number` as code, `title` as message) -/
theorem error_mapping_dragons (status : Nat) (hs : isSuccess status = false) (fields : List (String × J)) (ty : String) (title detail number : J)
    (h1 : (J.obj fields).get? "type" = some (.str ty)) (h2 : (J.obj fields).get? "title" = some title)
    (h3 : (J.obj fields).get? "detail" = some detail) (h4 : (J.obj fields).get? "number" = some number) :
    classify .dragons ⟨status, some (.obj fields)⟩ = .typed number title := by
  obtain ⟨_, b⟩ := get?_some_contains h1
  simp [classify, classifyDragons, hs, b, h1, h2, h3, h4]

/-- sun, likewise on a failure status only: `{"error": {"code": …, "message": …}}` raises `SunError` with the code as sent -/
theorem error_mapping_sun (status : Nat) (hs : isSuccess status = false) (fields e : List (String × J)) (code msg : J)
    (hk : (J.obj fields).get? "error" = some (.obj e))
    (hc : (J.obj e).get? "code" = some code) (hm : (J.obj e).get? "message" = some msg) :
    classify .sun ⟨status, some (.obj fields)⟩ = .typed code msg := by
  obtain ⟨_, b⟩ := get?_some_contains hk
  simp [classify, classifySun, hs, b, hk, hc, hm]

/-- a JSON object without the service's error key: success returns the parsed payload, failure raises `HTTPResponseError` -/
theorem error_mapping_plain_payload (c : Client) (k : String) (hk : errorKey c = some k) (status : Nat) (fields : List (String × J))
    (hno : fields.any (·.1 == k) = false) :
    classify c ⟨status, some (.obj fields)⟩ = if isSuccess status then .ok (some (.obj fields)) else .httpError status := by
  have hc : (J.obj fields).contains? k = some false := by simp [J.contains?, hno]
  cases c <;> simp [errorKey] at hk <;> subst hk <;>
    by_cases ht : (J.obj fields).truthy = true <;>
    simp [classify, classifyDauth, classifyAauth, classifyErrors, classifyBaas, classifyFive, finish, ht, hc]

/-- … and on a 2xx status these clients return the payload whatever it holds (atumn has no typed error at all) -/
theorem error_mapping_success_dragons_sun_atumn (status : Nat) (hs : isSuccess status = true) (j : J) :
    classify .dragons ⟨status, some j⟩ = .ok (some j) ∧ classify .sun ⟨status, some j⟩ = .ok (some j) ∧
      classify .atumn ⟨status, some j⟩ = .ok (some j) := by
  simp [classify, classifyDragons, classifySun, classifyAtumn, hs, finish]

/-- a body that carries the error key never comes back as a success, well-formed or not (typed error, or another
    exception escapes while it is built — the latter is the behaviour for *malformed* error payloads) -/
theorem error_mapping_never_success (c : Client) (k : String) (hk : errorKey c = some k) (status : Nat) (j : J)
    (ht : j.truthy = true) (hc : j.contains? k = some true) :
    (classify c ⟨status, some j⟩).isTyped = true ∨ (classify c ⟨status, some j⟩).isRaise = true := by
  cases c with
  | dauth => cases hk; exact classifyErrors_key status j ht hc
  | aauth => cases hk; exact classifyErrors_key status j ht hc
  | baas => cases hk; exact classifyBaas_key status j ht hc
  | five => cases hk; exact classifyFive_key status j ht hc
  | dragons | sun | atumn => cases hk

/- FULL STATEMENT NOT PROVED ("a server error payload *always* surfaces as that service's typed error"):
   for *malformed* error payloads (error key present, required members missing / of the wrong type) the code lets
   KeyError / IndexError / TypeError / ValueError escape from the exception constructor; the model mirrors that
   (`Outcome.raises`) and `error_mapping_never_success` is what holds.  Not a defect of the clients' contract for
   well-formed server output, so no finding is raised; the property's "always" is proved for well-formed documents. -/

/-! the hypotheses of `error_mapping_dauth_aauth` can be met: an error document as dauth sends it -/
example : classify .dauth ⟨400, some (.obj [("errors", .arr [.obj [("code", .str "0004"), ("message", .str "Unauthorized device")]])])⟩
    = .typed (.num 4) (.str "Unauthorized device") :=
  (error_mapping_dauth_aauth 400 _ [("code", .str "0004"), ("message", .str "Unauthorized device")] [] 4 _ rfl (by simp) (by decide +kernel) rfl).1

end Nx.C18
