import NxProofs.RmcServer
import NxProofs.RmcResult
import NxProofs.RmcRequest
import NxProofs.RmcListener
/-!
# C11 — an RMC server answers every request exactly once with the right outcome

Model: `NxModel/Nex/RmcServer.lean` — `react` mirrors `RMCClient.handle_request`, `serve` the receive loop
over a request sequence, `generatedHandle` the `handle()` / `handle_<method>` code that
`generate_protocols.py` emits (tables translated from the generated modules on every run).
Responses are stated as the *reference framing* of C09 (`Rmc.specEncode`), so "carries the request's
protocol and call id" is a statement about the bytes on the wire (`Nx.C09.rmc_reference_accepted`
decodes them back).

Quantifier of the property = `ReqWF` (fields as `RMCMessage.decode` yields them) + `Answerable`:
the handler returned (method id < 2^15 as every generated id is — generated obligation `method_ids_fit` —
and an output that fits a u32 length), or raised an RMC error whose code is a u32 with bit 31 (what
`RMCError(code)` yields for every code of the table), or raised any `Exception`.
Outside it (stated, not hidden): a `BaseException` that is no `Exception`, or an `RMCError` whose code does
not fit 32 bits, leaves `handle_request` and ends the loop — `not_answered_examples`.
Wrongly typed RESULTS (`NxModel/Nex/RmcResult.lean`): the generated handler validates only the top level of what
the user's method returned; every other position is checked by the encoder alone. `RmcResult.check slot v` models
which exception writing the Python value `v` at a position declared `slot` raises (tied by the correspondence on
every position of every generated result type); `incompat` is the property's own relation "a position declared
`slot` cannot hold a value of this type" (the harness's oracle, `rmc_results.incompatible`, is its twin, compared
on every case). Containers, structures and response fields only propagate (nothing in the encoder catches).
Truncation BELOW the top level (`NxModel/Nex/RmcRequest.lean`, `NxProofs/RmcRequest.lean`): a request body is nested —
structure frames `u8 version, u32 size, size bytes` per class (structure headers), anydata holders, counted lists,
length-prefixed strings and buffers. `readRequest` models the generated `input.<type>(...)` statements over a schema
read from the code under test; the harness's reference reader is its twin (compared on every case) and the model
computes the `extract` outcome of every such request from the request's own body (`extractOf`).
Registered OBJECTS and slow handlers (`NxModel/Nex/RmcServerObj.lean`): what is registered is an instance of the user's
subclass of a generated class — it may be falsy (`__len__` / `__bool__` of a subclass keeping a registry or a queue) — and
its user methods are coroutines that may await for any time. `handleTimed` = `generatedHandle` + `react` over the objects'
classes and the time that passes; the correspondence drives the real loop on a virtual clock and compares answer and time.
A LISTENER with several connections (`NxModel/Nex/RmcListener.lean`, `NxProofs/RmcListener.lean`): `rmc.serve` /
`serve_on_transport` give every accepted connection an `RMCClient` of its own that starts with the listener's servers; a
handler may attach further servers to ITS connection (`client.register_server`). `RmcListener.step` is the listener over
accept / close / register / request events; the table a request is answered from (`react`, hence everything above) is that
of its own connection. The correspondence replays whole lives of real listeners (driver lines `lnew lacc lclose lreg lreq`).
Lemmas: `NxProofs/RmcServer.lean`, `NxProofs/RmcResult.lean`, `NxProofs/RmcRequest.lean`, `NxProofs/RmcListener.lean`.
-/
namespace Nx.C11
open Nx.Rmc Nx.RmcServer Nx.RmcResult

/-- exactly one response, carrying the request's protocol and call id — or none iff the protocol is NORESPONSE -/
theorem one_response (servers : Registry) (req : Msg) (m : Nat) (w : ReqWF req m) (h : HandleResult)
    (ha : Answerable m h) :
    (regLookup req.protocol servers = some true ∧ react servers req h = .silent) ∨
    (regLookup req.protocol servers ≠ some true ∧
      ∃ data msg, react servers req h = .sends data ∧ decode data = .ok msg ∧
        msg.mode = 1 ∧ msg.protocol = req.protocol ∧ msg.callId = req.callId) := by
  rcases react_answer (servers := servers) w h ha with hl | ⟨hn, s, hwf, hs, h1, h2, h3⟩
  · exact .inl hl
  · exact .inr ⟨hn, specEncode s, ofSpec s, hs, decode_specEncode s hwf, h1, h2, h3⟩

/-- the outcome table for a registered protocol that is not response-less -/
theorem outcome_table (servers : Registry) (req : Msg) (m : Nat) (w : ReqWF req m)
    (hp : regLookup req.protocol servers = some false) :
    (∀ out : Bytes, m < 32768 → out.length + 12 < 4294967296 →
      react servers req (.returned out) = .sends (specEncode (.success req.protocol req.callId m out))) ∧
    (∀ code : Nat, 2147483648 ≤ code → code < 4294967296 →
      react servers req (.raised (.rmcError code)) = .sends (specEncode (.failure req.protocol req.callId code))) ∧
    react servers req (.raised .typeError) = .sends (specEncode (.failure req.protocol req.callId 0x80040002)) ∧
    react servers req (.raised .indexError) = .sends (specEncode (.failure req.protocol req.callId 0x80040003)) ∧
    react servers req (.raised .memoryError) = .sends (specEncode (.failure req.protocol req.callId 0x80040006)) ∧
    react servers req (.raised .keyError) = .sends (specEncode (.failure req.protocol req.callId 0x80040007)) ∧
    react servers req (.raised .other) = .sends (specEncode (.failure req.protocol req.callId 0x80040001)) :=
  ⟨fun out hm hb => react_returned w hp out hm hb, fun c h1 h2 => react_rmcError w hp c h1 h2,
   react_raised w hp _ _ rfl (by decide), react_raised w hp _ _ rfl (by decide), react_raised w hp _ _ rfl (by decide),
   react_raised w hp _ _ rfl (by decide), react_raised w hp _ _ rfl (by decide)⟩

/-- an unknown protocol is answered `Core::NotImplemented`, whatever else is going on -/
theorem unknown_protocol_not_implemented (servers : Registry) (req : Msg) (m : Nat) (w : ReqWF req m)
    (hp : regLookup req.protocol servers = none) (h : HandleResult) :
    react servers req h = .sends (specEncode (.failure req.protocol req.callId 0x80010002)) :=
  react_unregistered w hp h

/-- generated dispatch: an unknown method id, an unsupported method and an unimplemented (stub) method
    all end in `RMCError("Core::NotImplemented")`, hence (by `not_implemented_response`) in error 0x80010002 -/
theorem not_implemented_dispatch (srv : Server) (mid : Nat) (ex : Option Exc) (u : User) :
    (findMethod mid srv.methods = none → generatedHandle srv mid ex u = notImplemented) ∧
    (∀ mt, findMethod mid srv.methods = some mt → mt.supported = false → generatedHandle srv mid ex u = notImplemented) ∧
    (∀ mt, findMethod mid srv.methods = some mt → mt.supported = true → generatedHandle srv mid none .stub = notImplemented) :=
  ⟨gen_unknown_method srv mid ex u, fun mt h hs => by simp [generatedHandle, h, hs], fun mt h hs => by simp [generatedHandle, h, hs]⟩

/-- `RMCError("Core::NotImplemented")` from the handler of a registered protocol that is not response-less is answered
    with error 0x80010002 -/
theorem not_implemented_response (servers : Registry) (req : Msg) (m : Nat) (w : ReqWF req m)
    (hp : regLookup req.protocol servers = some false) :
    react servers req notImplemented = .sends (specEncode (.failure req.protocol req.callId 0x80010002)) :=
  react_rmcError w hp 0x80010002 (by decide) (by decide)

/-- a request for a method id the addressed server (of a protocol that is not response-less) does not define — the id
    as it stands on the wire, all 32 bits, whatever defined id it may resemble — is answered with exactly one
    `Core::NotImplemented` response carrying the request's protocol and call id; `handle()` is entered with that very id,
    no user method runs, and nothing the user's methods would have done can change the answer -/
theorem unknown_method_not_implemented (tbl : List Server) (srv : Server) (p c mid : Nat) (body : Bytes)
    (hwf : (Spec.request p c mid body).WF) (hs : findServer p tbl = some srv) (hn : srv.noresponse = false)
    (hu : findMethod mid srv.methods = none) (ex : Option Exc) (u : User) :
    ∃ req, decode (specEncode (.request p c mid body)) = .ok req ∧
      dispatch tbl req ex = some (p, mid, none) ∧
      react (registryOf tbl) req (generatedHandle srv mid ex u) = .sends (specEncode (.failure p c 0x80010002)) := by
  obtain ⟨hp, hc, _, _⟩ := hwf
  refine ⟨ofSpec (.request p c mid body), decode_specEncode _ ⟨hp, hc, ‹_›, ‹_›⟩, ?_, ?_⟩
  · simp only [dispatch, ofSpec, hs, invoked_unknown srv mid ex hu, (findServer_some hs).2]
  · rw [gen_unknown_method srv mid ex u hu]
    have hreg : regLookup p (registryOf tbl) = some false := by rw [regLookup_registryOf, hs]; simp [hn]
    exact not_implemented_response (registryOf tbl) (ofSpec (.request p c mid body)) mid ⟨hp, hc, rfl⟩ hreg

/-- the unknown ids that *alias* a defined one: every generated id is below 2^15 (generated obligation
    `method_ids_fit`), so a defined id `k` with any bit from 15 upwards set (`k | 2^b`, `k + 2^b`, `0xFFFF0000 | k`:
    what a 15/16-bit narrowing or a response-style `& ~0x8000` would map back to `k`) is not in the table; below
    bit 15 an id is unknown exactly when no entry carries it -/
theorem alias_ids_unknown (srv : Server) (hfit : srv.methodIdsFit = true) (k : Nat) :
    (∀ b, 15 ≤ b → findMethod (k ||| 2 ^ b) srv.methods = none ∧ findMethod (k + 2 ^ b) srv.methods = none) ∧
    findMethod (0xFFFF0000 ||| k) srv.methods = none ∧
    (∀ mid, 32768 ≤ mid → findMethod mid srv.methods = none) ∧
    (∀ mid, findMethod mid srv.methods = none ↔ mid ∉ srv.methods.map (·.id)) :=
  ⟨fun b hb =>
    have h : 32768 ≤ 2 ^ b := (Nat.pow_le_pow_right (by decide) hb : 2 ^ 15 ≤ 2 ^ b)
    ⟨findMethod_none_of_ge hfit (Nat.le_trans h Nat.right_le_or),
     findMethod_none_of_ge hfit (Nat.le_trans h (Nat.le_add_left _ _))⟩,
   findMethod_none_of_ge hfit (Nat.le_trans (by decide) Nat.left_le_or),
   fun _ h => findMethod_none_of_ge hfit h, fun _ => findMethod_none_iff⟩

/-- which user code runs: the entry with exactly the requested id, if it is supported and its parameters could be
    read — and if none runs, the outcome is the same for every behaviour of the user's methods -/
theorem handler_runs_iff (srv : Server) (mid : Nat) (ex : Option Exc) :
    (∀ k, invoked srv mid ex = some k ↔
      k = mid ∧ ex = none ∧ ∃ mt, findMethod mid srv.methods = some mt ∧ mt.supported = true) ∧
    (invoked srv mid ex = none → ∀ u u', generatedHandle srv mid ex u = generatedHandle srv mid ex u') :=
  ⟨invoked_some_iff srv mid ex, not_invoked_user_irrelevant srv mid ex⟩

/-- generated dispatch of a known, supported method: reading past the end of the body (or any other failure
    while extracting the parameters) is the handler's exception; otherwise the user's exception, or — for a
    well-typed result — whatever encoding it yields; a wrongly typed / incomplete result is a `RuntimeError` -/
theorem dispatch_supported (srv : Server) (mid : Nat) (mt : Method)
    (h : findMethod mid srv.methods = some mt) (hs : mt.supported = true) :
    (∀ e u, generatedHandle srv mid (some e) u = .raised e) ∧
    (∀ e, generatedHandle srv mid none (.raises e) = .raised e) ∧
    (∀ enc, generatedHandle srv mid none (.returns .good enc) = if mt.resp = .none then .returned [] else enc) ∧
    (∀ sh enc, sh ≠ .good → (mt.resp = .single false ∨ mt.resp = .multi) →
      generatedHandle srv mid none (.returns sh enc) = .raised .other) :=
  ⟨fun e u => gen_extract_fails srv mid e u mt h hs, fun e => by simp [generatedHandle, h, hs],
   fun enc => gen_returns_good srv mid enc mt h hs,
   fun sh enc hsh hr => by rcases hr with hr | hr <;> simp [generatedHandle, h, hs, hr, hsh]⟩

/-- a result the validation / encoder rejects at one position with exception `e` is answered with exactly the
    error response carrying the PythonCore code of `e` (TypeError → 0x80040002, everything else it raises →
    0x80040001): never a success, never part of the output -/
theorem wrong_result_answered_with_error (servers : Registry) (req : Msg) (m : Nat) (w : ReqWF req m)
    (hp : regLookup req.protocol servers = some false)
    (srv : Server) (mid : Nat) (mt : Method) (hf : findMethod mid srv.methods = some mt)
    (hs : mt.supported = true) (hr : mt.resp ≠ .none)
    (wh : Where) (s : Slot) (v : Val) (e : PyExc) (obs : Bytes) (he : resultCheck wh s v = some e) :
    react servers req (generatedHandle srv mid none (.returns .good (encOf (resultCheck wh s v) obs)))
      = .sends (specEncode (.failure req.protocol req.callId (pyCode e))) := by
  rw [gen_returns_good srv mid _ mt hf hs, if_neg hr, he]
  exact react_raised w hp e.cls (pyCode e) (resultCode_cls e).1 (resultCode_cls e).2

/-- every value the property calls wrongly typed for a declared type is rejected by the encoder model, with the
    class of exception the property states (so, by `wrong_result_answered_with_error`, answered with that code) -/
theorem incompatible_value_rejected (s : Slot) (v : Val) (c : Exc) (h : incompat s v = some c) :
    ∃ e, check s v = some e ∧ e.cls = c :=
  incompat_sound s v c h

/-- a string position holds exactly `None` and text that encodes to at most 65534 UTF-8 bytes; everything else —
    int, float, bool, bytes, lists, objects — is a TypeError (that of `string + "\0"` in `StreamOut.string`) -/
theorem string_position (v : Val) :
    (check .string v = none ↔ v = .atom .none ∨ ∃ cps, v = .atom (.str cps) ∧ textCheck cps = none) ∧
    (v ≠ .atom .none → (∀ cps, v ≠ .atom (.str cps)) → check .string v = some .typeError) := by
  show (stringCheck v = none ↔ _) ∧ (_ → _ → stringCheck v = some .typeError)
  unfold stringCheck
  split <;> simp_all

/-- the top level of a single-value result: `isinstance` first (RuntimeError), then the encoder -/
theorem top_level_result (t : TopType) (s : Slot) (v : Val) :
    (isInstance t v = false → resultCheck (.top t) s v = some .runtimeError) ∧
    (isInstance t v = true → resultCheck (.top t) s v = check s v) := by
  constructor <;> intro h <;> simp [resultCheck, h]

/-- lists and maps: the first rejected element / key / value decides, whatever follows it -/
theorem containers_propagate_first_failure :
    (∀ (e : Slot) (k : SeqKind) (pre post : List Atom) (a : Atom) (x : PyExc),
      (∀ b ∈ pre, check e (.atom b) = none) → check e (.atom a) = some x →
      check (.list e) (.seq k (pre ++ a :: post)) = some x) ∧
    (∀ (ks vs : Slot) (pre post : List (Atom × Atom)) (kv : Atom × Atom) (x : PyExc),
      (∀ p ∈ pre, check ks (.atom p.1) = none ∧ check vs (.atom p.2) = none) →
      (check ks (.atom kv.1) = some x ∨ (check ks (.atom kv.1) = none ∧ check vs (.atom kv.2) = some x)) →
      check (.map ks vs) (.dict (pre ++ kv :: post)) = some x) :=
  ⟨list_first_failure, map_first_failure⟩

section Framing
open Nx.RmcRequest

/-- with structure headers the fields of one class of a structure are read from the `size` bytes of its frame ONLY:
    what follows the frame can neither supply missing fields nor be consumed by them -/
theorem struct_frame_is_bounded (R : Hook) (env : Env) (items : Items) (ver : Nat) (hv : ver < 256) (frame rest : Bytes)
    (h : frame.length < 4294967296) :
    decLevel R env true items (u8 ver ++ u32le frame.length ++ frame ++ rest) =
      match loadFrame R env ver items frame with
      | .ok vs => .ok (vs, rest)
      | .error e => .error e := by
  unfold decLevel
  simp only [if_true]
  unfold Rd.seq
  rw [List.append_assoc, List.append_assoc, rdU8_u8 _ _ hv]
  simp only []
  rw [← List.append_assoc, decBuf_frame frame rest h]
  simp only [Rd.lift]
  cases loadFrame R env ver items frame <;> rfl

/-- a structure frame that declares (and holds) FEWER bytes than its fields need — the first `k` bytes of a frame whose
    fields take `frame.length - left.length > k` — is an OverflowError, whatever follows the frame (later parameters,
    trailing data): the missing fields are never taken from there -/
theorem short_frame_rejected (env : Env) (f : Nat) (items : Items) (ver : Nat) (hv : ver < 256)
    (frame : Bytes) (hl : frame.length < 4294967296) (vs : List RmcRequest.Val) (left : Bytes)
    (hok : decItems (decObj env true f) env ver items frame = .ok (vs, left))
    (k : Nat) (hk : k < frame.length - left.length) (rest : Bytes) :
    decLevel (decObj env true f) env true items (u8 ver ++ u32le k ++ frame.take k ++ rest) = .error .overflow := by
  have hlen : (frame.take k).length = k := by simp [List.length_take]; omega
  have h1 := struct_frame_is_bounded (decObj env true f) env items ver hv (frame.take k) rest (by omega)
  rw [hlen] at h1
  rw [h1]
  unfold loadFrame
  rw [Local.truncated (decItems_local _ env (decObj_local env true f) ver items) hok k hk]

/-- the same at the top level and at every level in between: a body that ends inside what the parameters take
    (any proper prefix of the consumed bytes) is an OverflowError — at whatever nesting depth the cut falls -/
theorem truncated_request_rejected (env : Env) (hdr : Bool) (tys : List Ty) (b : Bytes) (vs : List RmcRequest.Val) (r : Bytes)
    (h : decArgs (decObj env hdr fuel) env tys b = .ok (vs, r)) (k : Nat) (hk : k < b.length - r.length) :
    readRequest env hdr tys (b.take k) = .error .overflow ∧ extractOf env hdr tys (b.take k) = some .other := by
  have := Local.truncated (decArgs_local _ env (decObj_local env hdr fuel) tys) h k hk
  simp [readRequest, extractOf, this, excOf]

/-- every reader of the model consumes a prefix of its input, is independent of what follows that prefix and fails with
    OverflowError on every proper prefix of it (the lemma behind the two theorems above) -/
theorem readers_are_local (env : Env) (hdr : Bool) (f : Nat) :
    (∀ t, Local (decTy (decObj env hdr f) env t)) ∧ (∀ ver it, Local (decItems (decObj env hdr f) env ver it)) ∧
    (∀ id, Local (decObj env hdr f id)) ∧ (∀ ts, Local (decArgs (decObj env hdr f) env ts)) :=
  ⟨decTy_local _ env (decObj_local env hdr f), decItems_local _ env (decObj_local env hdr f),
   decObj_local env hdr f, decArgs_local _ env (decObj_local env hdr f)⟩

/-- a request whose parameters cannot be read — at any nesting level: the reader's exception `e` — is answered with exactly
    one error response carrying the PythonCore code of `e` and the request's protocol and call id, and NO user method is
    invoked, whatever the user's methods would have done -/
theorem unreadable_request_answered_with_error (servers : Registry) (req : Msg) (m : Nat) (w : ReqWF req m)
    (hp : regLookup req.protocol servers = some false)
    (srv : Server) (mid : Nat) (mt : Method) (hf : findMethod mid srv.methods = some mt) (hs : mt.supported = true)
    (env : Env) (hdr : Bool) (tys : List Ty) (e : Err) (he : readRequest env hdr tys req.body = .error e) (u : User) :
    invoked srv mid (extractOf env hdr tys req.body) = none ∧
    react servers req (generatedHandle srv mid (extractOf env hdr tys req.body) u)
      = .sends (specEncode (.failure req.protocol req.callId (errCode e))) := by
  have hx : extractOf env hdr tys req.body = some (excOf e) := by simp [extractOf, he]
  rw [hx, gen_extract_fails srv mid (excOf e) u mt hf hs]
  exact ⟨by simp [invoked, hf], react_raised w hp _ _ (by cases e <;> rfl) (by cases e <;> decide)⟩

/-- and a request whose parameters can be read reaches the user method with its own id (supported method) -/
theorem readable_request_reaches_handler (srv : Server) (mid : Nat) (mt : Method)
    (hf : findMethod mid srv.methods = some mt) (hs : mt.supported = true)
    (env : Env) (hdr : Bool) (tys : List Ty) (body : Bytes) (vs : List RmcRequest.Val)
    (h : readRequest env hdr tys body = .ok vs) : invoked srv mid (extractOf env hdr tys body) = some mid := by
  have hx : extractOf env hdr tys body = none := by simp [extractOf, h]
  have := (findMethod_some hf).2
  simp [hx, invoked, hf, hs, this]

end Framing

/-- with distinct method ids (generated obligation `method_ids_distinct`) every table entry is reachable
    under its own id -/
theorem dispatch_reaches_every_method (srv : Server) (hd : srv.methodIdsDistinct = true) (mt : Method)
    (hm : mt ∈ srv.methods) : findMethod mt.id srv.methods = some mt :=
  findMethod_of_mem hd hm

/-- a lookup only ever yields an entry of the table that carries the requested id -/
theorem dispatch_only_own_id (srv : Server) (mid : Nat) (mt : Method) (h : findMethod mid srv.methods = some mt) :
    mt ∈ srv.methods ∧ mt.id = mid :=
  findMethod_some h

/-- on a response-less protocol nothing is sent, whatever the handler returned or raised short of a `BaseException`
    (that one leaves the loop, on any protocol: `not_answered_examples`) -/
theorem noresponse_silent (servers : Registry) (req : Msg) (hp : regLookup req.protocol servers = some true)
    (h : HandleResult) (hb : h ≠ .raised .base) : react servers req h = .silent :=
  react_noresponse hp h hb

/-- any sequence of answerable requests is answered request by request, each exactly as if it were alone:
    a failing handler neither ends the loop nor affects later requests -/
theorem C11_sequence (servers : Registry) (reqs : List (Msg × HandleResult))
    (hall : ∀ x ∈ reqs, ∃ m, ReqWF x.1 m ∧ Answerable m x.2) :
    serve servers reqs = reqs.map (fun x => react servers x.1 x.2) ∧
    Reaction.propagates ∉ serve servers reqs := by
  refine ⟨serve_eq_map servers reqs hall, ?_⟩
  rw [serve_eq_map servers reqs hall]
  intro hmem
  obtain ⟨x, hx, he⟩ := List.mem_map.mp hmem
  obtain ⟨m, w, ha⟩ := hall x hx
  exact react_ne_propagates w x.2 ha he

/-- what was answered before does not change what is answered next (`handle_request` assigns to nothing) -/
theorem server_state_unchanged (servers : Registry) (before after : List (Msg × HandleResult))
    (hb : ∀ x ∈ before, ∃ m, ReqWF x.1 m ∧ Answerable m x.2) :
    serve servers (before ++ after) = serve servers before ++ serve servers after := by
  rw [serve_answerable servers before after hb, serve_eq_map servers before hb]

/-- the driver replays the real request sequence of a connection through `serveStep`, one request per line;
    that is the same function as `serve` (so `C11_sequence` speaks about what the correspondence ties) -/
theorem serve_is_replayed (servers : Registry) (l : List (Msg × HandleResult)) :
    serve servers l = serveInc servers true l :=
  serve_eq_serveInc servers l

/-- outside the quantifier: these end the receive loop instead of being answered -/
theorem not_answered_examples :
    react [(10, false)] { mode := 0, protocol := 10, method := some 1, callId := 7, error := -1, body := [] }
      (.raised .base) = .propagates ∧
    react [(10, false)] { mode := 0, protocol := 10, method := some 1, callId := 7, error := -1, body := [] }
      (.raised (.rmcError 0x180000000)) = .propagates := by
  decide

/-! non-vacuity, by the theorems witnessed -/
-- the quantifier (`w`, `ha` of `one_response`, `C11_sequence`): `ReqWF` at the largest call id; `Answerable` once per form of
-- result — a raised `Exception` is answerable whatever the method id
example : ReqWF { mode := 0, protocol := 0x7F, method := some 5, callId := 4294967295, error := -1, body := [1] } 5 :=
  ⟨by decide, by decide, rfl⟩
example : Answerable 5 (.returned [1, 2, 3]) := by simp [Answerable]
example : Answerable 5 (.raised (.rmcError 0x80030065)) := by simp [Answerable]
example : Answerable 0xFFFFFFFF (.raised .keyError) := by simp [Answerable]

-- `outcome_table` (the KeyError row) and `noresponse_silent`, down to the bytes sent
example : react [(10, false), (14, true)]
    { mode := 0, protocol := 10, method := some 2, callId := 9, error := -1, body := [] } (.raised .keyError)
    = .sends [10, 0, 0, 0, 10, 0, 7, 0, 4, 0x80, 9, 0, 0, 0] := by decide +kernel
example : react [(10, false), (14, true)]
    { mode := 0, protocol := 14, method := some 1, callId := 9, error := -1, body := [] } (.returned []) = .silent := by decide +kernel

-- generated dispatch: `dispatch_supported` (an extraction failure wins even over a stub); `alias_ids_unknown` at k = 5, b = 15;
-- `unknown_method_not_implemented`: `handle()` is entered with 0x8005 and no user method runs, with 5 method 5 runs; its `hwf`
example : generatedHandle { protocol := 10, noresponse := false, methods := [{ id := 1, supported := true, resp := .single false }] }
    1 (some .other) .stub = .raised .other := by decide +kernel
example : findMethod (5 ||| 2 ^ 15) [{ id := 5, supported := true, resp := .single false }] = none ∧
    findMethod 5 [{ id := 5, supported := true, resp := .single false }] ≠ none := by decide +kernel
example : dispatch [{ protocol := 10, noresponse := false, methods := [{ id := 5, supported := true, resp := .single false }] }]
    { mode := 0, protocol := 10, method := some 0x8005, callId := 9, error := -1, body := [] } none = some (10, 0x8005, none) ∧
  dispatch [{ protocol := 10, noresponse := false, methods := [{ id := 5, supported := true, resp := .single false }] }]
    { mode := 0, protocol := 10, method := some 5, callId := 9, error := -1, body := [] } none = some (10, 5, some 5) := by decide +kernel
example : (Spec.request 10 9 0x8005 [1, 0, 0, 0]).WF := by decide +kernel

-- wrongly typed results: `h` of `incompatible_value_rejected` (three times) and `he` of `wrong_result_answered_with_error`;
-- `containers_propagate_first_failure` for a list and a map (the key 70000 decides before the value); `top_level_result`:
-- a tuple is no list; what the encoder duck-types and `incompat` therefore leaves out: a bool at an integer, anything at a
-- stationurl or bool position; `wrong_result_answered_with_error` down to the bytes sent
example : incompat .string (.atom (.int 12345)) = some .typeError := by decide +kernel
example : incompat (.list .string) (.atom .opaque) = some .typeError := by decide +kernel
example : incompat .u32 (.atom (.str [49])) = some .other := by decide +kernel
example : resultCheck (.inner false) .string (.atom (.bytes [110, 111, 100, 101] false)) = some .typeError := by decide +kernel
example : check (.list .string) (.seq .list [.str [110], .int 2, .str [110]]) = some .typeError := by decide +kernel
example : check (.map .u16 .string) (.dict [(.int 1, .str [97]), (.int 70000, .opaque)]) = some .structError := by decide +kernel
example : resultCheck (.top .list) (.list .string) (.seq .tuple [.str [97]]) = some .runtimeError := by decide +kernel
example : check .u32 (.atom (.bool true)) = none ∧ check .stationurl (.atom (.int 5)) = none ∧ check .bool (.atom .opaque) = none := by decide +kernel
example : react [(10, false)] { mode := 0, protocol := 10, method := some 1, callId := 9, error := -1, body := [] }
    (generatedHandle { protocol := 10, noresponse := false, methods := [{ id := 1, supported := true, resp := .multi }] } 1 none
      (.returns .good (encOf (resultCheck (.inner false) .string (.atom (.int 12345))) [1, 0, 1, 0])))
    = .sends [10, 0, 0, 0, 10, 0, 2, 0, 4, 0x80, 9, 0, 0, 0] := by decide +kernel

-- `C11_sequence`: a handler that raised, then a request for an unknown protocol: both answered
example : serve [(10, false)]
    [({ mode := 0, protocol := 10, method := some 2, callId := 1, error := -1, body := [] }, .raised .typeError),
     ({ mode := 0, protocol := 11, method := some 2, callId := 2, error := -1, body := [] }, .returned [])]
    = [.sends [10, 0, 0, 0, 10, 0, 2, 0, 4, 0x80, 1, 0, 0, 0], .sends [10, 0, 0, 0, 11, 0, 2, 0, 1, 0x80, 2, 0, 0, 0]] := by decide +kernel

/-! nested framing, on the layout of DataStore `get_rating(target : DataStoreRatingTarget {u64 data_id, s8 slot}, u64 password)` -/
section FramingExamples
open Nx.RmcRequest
def exEnv : Env := { structs := [(1, [.field .u64 (.field .s8 .nil)])], registry := [] }
def exTarget : Bytes := [0xE8, 3, 0, 0, 0, 0, 0, 0, 3]
def exPassword : Bytes := [0x88, 0x77, 0x66, 0x55, 0x44, 0x33, 0x22, 0x11]
/-- well-formed -/
example : readRequest exEnv true [.struct 1, .u64] (u8 0 ++ u32le 9 ++ exTarget ++ exPassword)
    = .ok [.obj [.int 1000, .int 3], .int 0x1122334455667788] := by rfl
/-- the frame cut to 4 of its 9 bytes, the password following: unreadable, although 13 bytes follow the header -/
example : readRequest exEnv true [.struct 1, .u64] (u8 0 ++ u32le 4 ++ exTarget.take 4 ++ exPassword) = .error .overflow := by rfl
/-- the frame declaring 8 bytes, all 9 kept -/
example : readRequest exEnv true [.struct 1, .u64] (u8 0 ++ u32le 8 ++ exTarget ++ exPassword) = .error .overflow := by rfl
/-- a longer frame (newer structure version): surplus inside the frame is skipped -/
example : readRequest exEnv true [.struct 1, .u64] (u8 1 ++ u32le 11 ++ exTarget ++ [0xAA, 0xBB] ++ exPassword)
    = .ok [.obj [.int 1000, .int 3], .int 0x1122334455667788] := by rfl
/-- hypotheses of `short_frame_rejected` at a non-trivial point -/
example : decItems (decObj exEnv true 3) exEnv 0 (.field .u64 (.field .s8 .nil)) exTarget = .ok ([.int 1000, .int 3], []) := by rfl
example : extractOf exEnv true [.struct 1, .u64] (u8 0 ++ u32le 4 ++ exTarget.take 4 ++ exPassword) = some .other := by decide +kernel
/-- an unregistered holder name is a KeyError -/
example : extractOf exEnv true [.anydata] ([2, 0, 65, 0] ++ u32le 4 ++ u32le 0) = some .keyError := by decide +kernel
end FramingExamples

/-! registered objects that are falsy, handlers that take long -/

/-- the truth values of the registered objects are irrelevant: objects of the same classes — truthy, falsy, changing
    from request to request — give the same handler run, the same answer and take the same time -/
theorem falsy_object_answered (objs objs' : List Obj) (hsame : objs.map (·.srv) = objs'.map (·.srv))
    (req : Msg) (ex : Option Exc) (p : Prog) : handleTimed objs req ex p = handleTimed objs' req ex p := by
  have h : objServers objs = objServers objs' := hsame
  unfold handleTimed
  rw [h]

/-- however long the user's coroutine awaits before it returns / raises: what `handle()` did and the answer are those
    of the coroutine that does the same at once -/
theorem slow_handler_answered (objs : List Obj) (req : Msg) (ex : Option Exc) (p : Prog) :
    (handleTimed objs req ex p).2 = (handleTimed objs req ex (.done p.outcome)).2 := by
  unfold handleTimed
  split <;> rfl

/-- the answer is `react` of what the addressed object's generated `handle()` did with the coroutine's outcome — so
    `one_response`, `outcome_table`, `noresponse_silent`, `unknown_method_not_implemented` … speak about it -/
theorem timed_answer_is_react (objs : List Obj) (req : Msg) (ex : Option Exc) (p : Prog) :
    (handleTimed objs req ex p).2.2 = react (registryOf (objServers objs)) req (handleTimedResult objs req ex p) ∧
    (∀ srv mid, findServer req.protocol (objServers objs) = some srv → req.method = some mid →
      handleTimedResult objs req ex p = generatedHandle srv mid ex p.outcome) := by
  unfold handleTimedResult handleTimed
  refine ⟨by split <;> rfl, fun srv mid hs hm => ?_⟩
  rw [hs, hm]
  rfl

/-- the loop is back at `recv()` exactly when the coroutine is done (no deadline cuts it short, nothing is sent early):
    all of its awaiting if the dispatch reaches it, no time at all otherwise -/
theorem handler_time_is_awaited (objs : List Obj) (req : Msg) (ex : Option Exc) (p : Prog) :
    (∀ srv mid, findServer req.protocol (objServers objs) = some srv → req.method = some mid →
      (handleTimed objs req ex p).1 = if (invoked srv mid ex).isSome then p.waited else 0) ∧
    (findServer req.protocol (objServers objs) = none → (handleTimed objs req ex p).1 = 0) := by
  unfold handleTimed
  exact ⟨fun srv mid hs hm => by rw [hs, hm], fun hs => by rw [hs]⟩

/-- the driver's `sreqo` (`serveStepTimed`) is `serveStep` — hence `serve`, hence `C11_sequence` — on these requests -/
theorem timed_loop_is_serve (objs : List Obj) (alive : Bool) (req : Msg) (ex : Option Exc) (p : Prog) :
    (serveStepTimed objs alive req ex p).1 =
      (serveStep (registryOf (objServers objs)) alive (req, handleTimedResult objs req ex p)).1 ∧
    (serveStepTimed objs alive req ex p).2.map (·.2.2) =
      (serveStep (registryOf (objServers objs)) alive (req, handleTimedResult objs req ex p)).2 := by
  unfold serveStepTimed serveStep
  cases alive with
  | false => simp
  | true =>
    rw [← (timed_answer_is_react objs req ex p).1]
    cases h : (handleTimed objs req ex p).2.2 <;> simp [h]

/-- a falsy object of a class with one method, a coroutine awaiting 31 s + 1 h and then raising KeyError:
    answered with PythonCore::KeyError after 3631 s; on a response-less protocol: silence -/
example : handleTimed [{ srv := { protocol := 10, noresponse := false, methods := [{ id := 1, supported := true, resp := .single false }] }, truthy := false }]
    { mode := 0, protocol := 10, method := some 1, callId := 9, error := -1, body := [] } none
    (.wait 31000 (.wait 3600000 (.done (.raises .keyError))))
    = (3631000, some (.raised .keyError), .sends [10, 0, 0, 0, 10, 0, 7, 0, 4, 0x80, 9, 0, 0, 0]) := by decide +kernel
example : handleTimed [{ srv := { protocol := 14, noresponse := true, methods := [{ id := 1, supported := true, resp := .none }] }, truthy := false }]
    { mode := 0, protocol := 14, method := some 1, callId := 9, error := -1, body := [] } none
    (.wait 600000 (.done (.returns .good (.returned []))))
    = (600000, some (.returned []), .silent) := by decide +kernel

/-! ### a listener with several connections: registration is per connection -/
open Nx.RmcListener in
/-- what connection `c` registers for itself does not exist for another connection `d`: a request for that protocol on `d`
    is still answered `Core::NotImplemented`, and `d` can register an instance of its own -/
theorem listener_registration_is_per_connection (l : Listener) (c d : Nat) (s : Server) (hcd : d ≠ c)
    (td : List Server) (hd : tableOf d l.conns = some td) (hp : findServer s.protocol td = none)
    (req : Msg) (m : Nat) (w : ReqWF req m) (hreq : req.protocol = s.protocol) (h : HandleResult) :
    (step (step l (.register c s)).1 (.request d req h)).2
        = .reaction (.sends (specEncode (.failure req.protocol req.callId 0x80010002))) ∧
    (∀ s' : Server, s'.protocol = s.protocol → (step (step l (.register c s)).1 (.register d s')).2 = .registered true) := by
  have ht : tableOf d (step l (.register c s)).1.conns = some td := by rw [step_other l (.register c s) d hcd, hd]
  refine ⟨?_, fun s' hs' => (register_ok _ d td s' ht (by rw [hs']; exact hp)).1⟩
  rw [request_not_here _ d td req m w ht (by rw [hreq]; exact hp) h]

open Nx.RmcListener in
/-- whole histories: whatever OTHER connections do (accept, register, request, close — any number of events), the servers of
    connection `d` stay what they were; and the listener's own list never changes -/
theorem listener_history_frame (l : Listener) (evs : List Ev) (d : Nat) (h : ∀ e ∈ evs, d ≠ e.conn) :
    tableOf d (run l evs).1.conns = tableOf d l.conns ∧ (run l evs).1.servers = l.servers :=
  ⟨run_other l evs d h, run_servers l evs⟩

open Nx.RmcListener in
/-- a registration ends with its connection: after ANY history a newly accepted connection starts with exactly the
    listener's servers, and a closed connection has none -/
theorem listener_accept_starts_with_listeners_servers (l : Listener) (evs : List Ev) (c : Nat) :
    tableOf c (step (run l evs).1 (.accept c)).1.conns = some l.servers ∧
    tableOf c (step (run l evs).1 (.close c)).1.conns = none := by
  refine ⟨?_, close_forgets _ c⟩
  rw [accept_fresh, run_servers]

open Nx.RmcListener in
/-- on ONE connection the second registration of a protocol raises (the handler's exception: PythonCore::Exception by
    `outcome_table`) and changes nothing -/
theorem listener_second_registration_raises (l : Listener) (c : Nat) (t : List Server) (s s' : Server)
    (ht : tableOf c l.conns = some t) (hp : findServer s.protocol t = some s') :
    step l (.register c s) = (l, .registered false) := by
  simp only [step, ht, register, hp]

/-- connections 0 and 1 of a listener serving protocol 10: 0 registers protocol 110; 1 asks for it -> NotImplemented;
    1 registers its own -> fine; 0 registers it again -> raises; 0 closes, a new connection 0 asks -> NotImplemented -/
example :
    let srv (p : Nat) : Server := { protocol := p, noresponse := false, methods := [{ id := 1, supported := true, resp := .none }] }
    let rq : Msg := { mode := 0, protocol := 110, method := some 1, callId := 7, error := -1, body := [] }
    let ni : Nx.RmcListener.Out := .reaction (.sends [10, 0, 0, 0, 110, 0, 2, 0, 1, 0x80, 7, 0, 0, 0])
    (Nx.RmcListener.run { servers := [srv 10], conns := [] }
      [.accept 0, .accept 1, .register 0 (srv 110), .request 1 rq (.returned []), .register 1 (srv 110), .request 1 rq (.returned []),
       .register 0 (srv 110), .close 0, .accept 0, .request 0 rq (.returned [])]).2
    = [.nothing, .nothing, .registered true, ni, .registered true,
       .reaction (.sends [10, 0, 0, 0, 110, 1, 7, 0, 0, 0, 1, 0x80, 0, 0]), .registered false, .nothing, .nothing, ni] := by decide +kernel

end Nx.C11
