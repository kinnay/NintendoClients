import NxProofs.Backend
import NxProofs.BackendServe
import NxProofs.BackendConnAck
/-!
# C17 — back-end login yields a secure connection authenticated as the issued user

Model: `NxModel/Nex/Backend.lean` — `plan cfg args script` mirrors `BackEndClient.login*` (backend.py): which
authentication method is called with what, which Kerberos key decrypts (real HMAC-MD5/RC4 on the real ticket
bytes), whether `request_ticket` is issued, where the client connects with which credentials, or which
exception ends the attempt. `NxModel/Nex/BackendServe.lean` — the secure server's `process_login_request` over its
whole life (`serve`, each verdict the C05 admission function `L1.loginRequestFn`) and the CONNECT payload the client
builds (`connectRequest`); `NxModel/Nex/BackendConnAck.lean` — `check_connection_response`.

Proved here: the client-side decision logic, for every configuration, argument and server script; history
independence of logins and of admissions; and the clause DESIGN.md §5 calls C17_pid — "the secure server's handlers observe
exactly the pid the authentication server issued" — ON THE MODEL: `connect_credentials` (the request carries `credentials.pid =
response.pid`) composed with the server-side admission (accepted ⇒ the pid inside the Kerberos-encrypted connect request
is the admitted one) and C16's envelope round trip gives `connect_admitted_as_issued`, under the hypothesis that the
ticket the server decrypts carries the credentials' session key (what a protocol-following authentication server
issues). The same through the L1 endpoint model, from a reference-built ticket, is
`C05.backend_login_is_admitted_as_issued_user`.
NOT a theorem: that the real objects are wired this way end to end (the pid the handlers see is the admitted one,
datagram loss during either handshake, the handshake waiting for the verdict on the CONNECT/ACK). That is established
by the exhaustive simulation matrix in harness/corr_C17.py (real backend.connect → real generated
Authentication(NX)Server → real keyed rmc.serve).
-/
namespace Nx.C17
open Nx.Backend

/-- nex.version < 40000: `login(username)`, or `login_ex(username, auth_info)` when extra data is given -/
theorem dispatch_old (cfg : Cfg) (a : Args) (h : cfg.nexVersion < 40000) :
    firstCall cfg a = if a.authInfo then .loginEx a.username else .login a.username := by
  simp [firstCall, h]

/-- 40000 ≤ nex.version < 40400: `validate_and_request_ticket`, `…_with_custom_data` with extra data -/
theorem dispatch_switch (cfg : Cfg) (a : Args) (h1 : 40000 ≤ cfg.nexVersion) (h2 : cfg.nexVersion < 40400) :
    firstCall cfg a = if a.authInfo then .validateAndRequestTicketWithCustomData a.username
                      else .validateAndRequestTicket a.username := by
  simp [firstCall, Nat.not_lt.mpr h1, h2]

/-- nex.version ≥ 40400: `validate_and_request_ticket_with_param` carrying the user name, the extra data
    (or NullData), `nex.version` and `nex.client_version` -/
theorem dispatch_param (cfg : Cfg) (a : Args) (h : 40400 ≤ cfg.nexVersion) :
    firstCall cfg a = .validateAndRequestTicketWithParam a.username a.authInfo cfg.nexVersion cfg.clientVersion := by
  have h1 : ¬ cfg.nexVersion < 40000 := by omega
  have h2 : ¬ cfg.nexVersion < 40400 := by omega
  simp [firstCall, h1, h2]

/-- that method is the first call of every plan (on a refusal the only one: `error_no_connection_*`) -/
theorem first_call_is_dispatch (cfg : Cfg) (a : Args) (s : Script) :
    (plan cfg a s).calls.head? = some (firstCall cfg a) := by
  rcases plan_cases cfg a s with ⟨_, _, e⟩ | ⟨r, ku, key, t, _, _, _, _, e⟩
  · rw [e]; rfl
  · obtain ⟨o, h, _⟩ := afterTicket_shape cfg r s.second (firstCall cfg a) ku key t
    rw [e, h]; split <;> rfl

/-- a non-empty source key in the response is the Kerberos key (password irrelevant) -/
theorem key_source (cfg : Cfg) (a : Args) (r : AuthResp) (sk : Bytes)
    (h : sourceKeyOf cfg a r = some sk) (hne : sk ≠ []) : chooseKey cfg a r = .ok (.source sk, sk) := by
  rw [chooseKey_eq, h]
  cases sk with
  | nil => exact absurd rfl hne
  | cons x xs => rfl

/-- no (or an empty) source key: the password is required and the key is derived from it and the *issued* pid
    with the derivation `kerberos.key_derivation` selects -/
theorem key_derived (cfg : Cfg) (a : Args) (r : AuthResp) (h : sourceKeyOf cfg a r = some []) :
    chooseKey cfg a r =
      match a.password with
      | none => .error (.exc .value)
      | some pw =>
        match deriveKey cfg.keyDerivation pw r.pid with
        | .ok k => .ok (.derived cfg.keyDerivation r.pid k, k)
        | .error e => .error (.exc e) := by
  rw [chooseKey_eq, h]; rfl

/-- there is no third way to obtain a key -/
theorem key_cases (cfg : Cfg) (a : Args) (r : AuthResp) (ku : KeyUse) (key : Bytes)
    (h : chooseKey cfg a r = .ok (ku, key)) :
    (∃ sk, sourceKeyOf cfg a r = some sk ∧ sk ≠ [] ∧ ku = .source sk ∧ key = sk) ∨
    (∃ pw, sourceKeyOf cfg a r = some [] ∧ a.password = some pw ∧
       deriveKey cfg.keyDerivation pw r.pid = .ok key ∧ ku = .derived cfg.keyDerivation r.pid key) :=
  chooseKey_ok_inv cfg a r ku key h

/-- `request_ticket(pid, station.PID)` is issued precisely when the first ticket is not for the secure server -/
theorem second_ticket_iff (cfg : Cfg) (r : AuthResp) (second : Reply TicketResp) (c1 : Call) (ku : KeyUse)
    (key : Bytes) (t : ClientTicket) :
    (afterTicket cfg r second c1 ku key t).calls =
      if t.target ≠ r.station.pid then [c1, .requestTicket r.pid r.station.pid] else [c1] := by
  obtain ⟨o, h, _⟩ := afterTicket_shape cfg r second c1 ku key t
  rw [h]

/-- the placeholder `0.0.0.1` means "same host and port as the authentication server" -/
theorem placeholder (cfg : Cfg) (st : Station) (h : st.address = "0.0.0.1") :
    target cfg st = (cfg.authHost, cfg.authPort) := by simp [target, h]

/-- any other advertised address is honoured as is -/
theorem advertised_address_honoured (cfg : Cfg) (st : Station) (h : st.address ≠ "0.0.0.1") :
    target cfg st = (st.address, st.port) := by simp [target, h]

/-! ## failures never yield a connection -/

/-- an RMC error from the first authentication method -/
theorem error_no_connection_first_fail (cfg : Cfg) (a : Args) (s : Script) (code : Nat) (h : s.first = .fail code) :
    plan cfg a s = ⟨[firstCall cfg a], .none, .error (.rmc code)⟩ := by
  unfold plan; rw [h]

/-- an error result in the first response (methods that carry a result) -/
theorem error_no_connection_error_result (cfg : Cfg) (a : Args) (s : Script) (r : AuthResp)
    (h : s.first = .resp r) (hc : checksResult cfg = true) (he : isError r.result = true) :
    plan cfg a s = ⟨[firstCall cfg a], .none, .error (.rmc r.result)⟩ := by
  unfold plan; simp only [h, hc, he, Bool.and_self, if_true]

/-- no usable key (bad hex, or no password when one is needed) -/
theorem error_no_connection_no_key (cfg : Cfg) (a : Args) (s : Script) (r : AuthResp) (f : Fail)
    (h : s.first = .resp r) (hc : ¬ (checksResult cfg = true ∧ isError r.result = true))
    (hk : chooseKey cfg a r = .error f) :
    plan cfg a s = ⟨[firstCall cfg a], .none, .error f⟩ := by
  unfold plan; simp only [h, Bool.and_eq_true, if_neg hc, hk]

/-- the ticket does not decrypt under the chosen key (wrong password / garbled ticket): no further call, no connection -/
theorem error_no_connection_wrong_key (cfg : Cfg) (a : Args) (s : Script) (r : AuthResp) (ku : KeyUse) (key : Bytes)
    (e : Err) (h : s.first = .resp r) (hc : ¬ (checksResult cfg = true ∧ isError r.result = true))
    (hk : chooseKey cfg a r = .ok (ku, key))
    (hd : clientTicketDecrypt cfg.keySize cfg.pidSize r.ticket key = .error e) :
    plan cfg a s = ⟨[firstCall cfg a], ku, .error (.exc e)⟩ := by
  unfold plan afterKey; simp only [h, Bool.and_eq_true, if_neg hc, hk, hd]

/-- **the only way to a connection**: every gate passed — successful first response, a key from the source key or
    the password, the first ticket decrypts, and either it is for the secure server or a second ticket was
    requested, came back without error and decrypts under the same key. The connection then goes to the resolved
    address with stream id `sid` and the credentials (final ticket, the pid the authentication server issued,
    the station's CID). -/
theorem connect_credentials (cfg : Cfg) (a : Args) (s : Script) (c : Connect) (h : (plan cfg a s).outcome = .ok c) :
    ∃ r ku key t tf, s.first = .resp r ∧ ¬ (checksResult cfg = true ∧ isError r.result = true) ∧
      chooseKey cfg a r = .ok (ku, key) ∧ (plan cfg a s).key = ku ∧
      clientTicketDecrypt cfg.keySize cfg.pidSize r.ticket key = .ok t ∧
      c = ⟨(target cfg r.station).1, (target cfg r.station).2, r.station.sid, r.pid, r.station.cid, tf⟩ ∧
      (plan cfg a s).calls = (if t.target ≠ r.station.pid then [firstCall cfg a, .requestTicket r.pid r.station.pid]
                              else [firstCall cfg a]) ∧
      ((t.target = r.station.pid ∧ tf = t) ∨
       (t.target ≠ r.station.pid ∧ ∃ r2, s.second = .resp r2 ∧ isError r2.result = false ∧
          clientTicketDecrypt cfg.keySize cfg.pidSize r2.ticket key = .ok tf)) :=
  plan_connect_inv cfg a s c h

/-! non-vacuity: `dispatch_*` at the edges of each band, `placeholder` and `advertised_address_honoured`,
    `error_no_connection_first_fail`, at concrete points -/
example : firstCall ⟨39999, 0, 0, 32, 4, "h", 1⟩ ⟨"u", none, true⟩ = .loginEx "u" := by decide +kernel
example : firstCall ⟨40000, 0, 0, 32, 4, "h", 1⟩ ⟨"u", none, false⟩ = .validateAndRequestTicket "u" := by decide +kernel
example : firstCall ⟨40399, 0, 0, 32, 4, "h", 1⟩ ⟨"u", none, true⟩ = .validateAndRequestTicketWithCustomData "u" := by decide +kernel
example : firstCall ⟨40400, 7, 0, 32, 4, "h", 1⟩ ⟨"u", none, false⟩ = .validateAndRequestTicketWithParam "u" false 40400 7 := by decide +kernel
example : target ⟨0, 0, 0, 32, 4, "auth", 60000⟩ ⟨"0.0.0.1", 5, 2, 0, 2⟩ = ("auth", 60000) := by decide +kernel
example : target ⟨0, 0, 0, 32, 4, "auth", 60000⟩ ⟨"10.0.0.9", 5, 2, 0, 1⟩ = ("10.0.0.9", 5) := by decide +kernel
example : (plan ⟨30000, 0, 0, 32, 4, "auth", 1⟩ ⟨"u", none, false⟩ ⟨.fail 0x80010002, .fail 0⟩).outcome = .error (.rmc 0x80010002) := by decide

/-! ## sequences of logins through one client (and one Settings object)

The property speaks about every login, not about the first login of every client object. A `BackEndClient`
carries only what its constructor stored; `session` threads that object through a list of logins. -/

/-- a login leaves the client object as it found it -/
theorem login_leaves_client (c : Client) (st : Step) : (c.login st).1 = c := rfl

/-- **history independence**: the k-th login of a session — after other accounts, guest logins, failed attempts,
    logins with or without extra data — is planned exactly as the same login alone through a fresh client -/
theorem login_history_independent (cfg : Cfg) (steps : List Step) (k : Nat) :
    ((session ⟨cfg⟩ steps)[k]?).map (fun p => [p]) = steps[k]?.map (fun st => session ⟨cfg⟩ [st]) := by
  rw [session_getElem?]; cases steps[k]? <;> simp [session, Client.login]

/-- in particular whatever came before (`pre`) does not matter for the login that follows -/
theorem login_after_any_prefix (cfg : Cfg) (pre pre' : List Step) (st : Step) :
    (session ⟨cfg⟩ (pre ++ [st]))[pre.length]? = (session ⟨cfg⟩ (pre' ++ [st]))[pre'.length]? := by
  rw [session_after_prefix, session_after_prefix]

/-- so all the single-login theorems above apply to every step of a session, e.g.: a step whose first call fails
    yields no connection whatever the earlier steps achieved -/
theorem session_step_first_fail (cfg : Cfg) (pre : List Step) (st : Step) (code : Nat) (h : st.script.first = .fail code) :
    (session ⟨cfg⟩ (pre ++ [st]))[pre.length]? = some ⟨[firstCall cfg st.args], .none, .error (.rmc code)⟩ := by
  rw [session_after_prefix, error_no_connection_first_fail cfg st.args st.script code h]

/-- and a step that ends in a connection passed every gate *itself*: it is the plan of its own arguments against its own
    script, and the credentials carry the pid issued in *its* response (not an earlier step's) -/
theorem session_step_connect (cfg : Cfg) (steps : List Step) (k : Nat) (p : Plan) (c : Connect)
    (hp : (session ⟨cfg⟩ steps)[k]? = some p) (h : p.outcome = .ok c) :
    ∃ st r, steps[k]? = some st ∧ p = plan cfg st.args st.script ∧ st.script.first = .resp r ∧ c.pid = r.pid := by
  rw [session_getElem?] at hp
  cases hs : steps[k]? with
  | none => simp [hs] at hp
  | some st =>
    simp [hs] at hp
    subst hp
    obtain ⟨r, ku, key, t, tf, hf, _, _, _, _, hc, _⟩ := plan_connect_inv cfg st.args st.script c h
    exact ⟨st, r, rfl, rfl, hf, by simp [hc]⟩

/-- `session` computes: a failed login and a failed guest login through one client, each refused with its own error
    (`session_step_first_fail` at both steps) -/
example : (session ⟨⟨30000, 0, 0, 32, 4, "auth", 1⟩⟩
    [⟨⟨"u", none, false⟩, ⟨.fail 0x80010002, .fail 0⟩⟩, ⟨guestArgs, ⟨.fail 0x80030065, .fail 0⟩⟩]).map (·.outcome) =
    [.error (.rmc 0x80010002), .error (.rmc 0x80030065)] := by decide +kernel

/-! ## the secure server over time: the same ticket shown again, stale tickets

"A stale ticket never yields a connection" is a statement about every CONNECT that reaches a secure server object during
its whole life, not about the first time the object sees a ticket. `Backend.serve` threads the server object
(`SecureServer`: what `process_login_request` reads — key and settings, nothing about earlier tickets) through a list of
CONNECT payloads at their instants (ticks of 2^-30 s); each verdict is `L1.loginRequestFn`, the C05 admission function, on
the real bytes. Tied to the code in harness/corr_C17.py by timed login sessions: the authentication server hands out the
byte-identical ticket at several logins while virtual time advances (fresh … just below / above 120 s … a day later), one
long-lived secure server; every recorded call of `process_login_request` is compared with `serve`. -/

/-- a presentation leaves the server object as it found it: there is no memory of tickets -/
theorem present_leaves_server (s : SecureServer) (p : Presentation) : (s.present p).1 = s := rfl

/-- **history independence of admission**: the verdict on the k-th CONNECT of a server's life is the verdict a server that
    has never seen anything gives on that payload at that instant — whether or not the ticket was presented (and
    admitted) before -/
theorem admission_history_independent (s : SecureServer) (ps : List Presentation) (k : Nat) :
    ((serve s ps)[k]?).map (fun v => [v]) = ps[k]?.map (fun p => serve s [p]) := by
  rw [serve_getElem?]; cases ps[k]? <;> simp [serve, SecureServer.present]

/-- in particular what the server saw before (`pre`) does not matter for the verdict on the CONNECT that follows -/
theorem admission_after_any_prefix (s : SecureServer) (pre pre' : List Presentation) (p : Presentation) :
    (serve s (pre ++ [p]))[pre.length]? = (serve s (pre' ++ [p]))[pre'.length]? := by
  rw [serve_after_prefix, serve_after_prefix]

/-- **a stale ticket is refused whatever the server has seen before** — in particular when `pre` contains the very same
    payload at an instant at which it was admitted: a payload of two buffers whose first decrypts under the server's key to a
    ticket whose time stamp lies more than 120 s before `now` (`timestamp < time.time() - 120`) raises `ValueError` -/
theorem stale_ticket_refused_after_any_history (s : SecureServer) (pre : List Presentation) (p : Presentation)
    (td r1 rd r2 : Bytes) (ticket : Nex.Kerberos.ServerTicket) (ts : Int)
    (h1 : Nex.rBuffer p.data = .ok (td, r1)) (h2 : Nex.rBuffer r1 = .ok (rd, r2))
    (h3 : Nex.Kerberos.ServerTicket.decrypt s.kc s.key td = .ok ticket)
    (h4 : Nex.DateTime.timestamp s.tz ticket.timestamp = .ok ts)
    (h5 : (ts + 120 - (s.epoch : Int)) * 1073741824 < (p.now : Int)) :
    (serve s (pre ++ [p]))[pre.length]? = some (.refuse .value) := by
  rw [serve_after_prefix, present_stale s p td r1 rd r2 ticket ts h1 h2 h3 h4 h5]

/-- conversely every admission — the first or the hundredth of a ticket — proves the ticket at most 120 s old at that
    instant, and admits the identity and session key inside the ticket -/
theorem admitted_ticket_is_young (s : SecureServer) (ps : List Presentation) (k : Nat) (p : Presentation)
    (pid cid : Nat) (sk resp : Bytes) (hp : ps[k]? = some p) (h : (serve s ps)[k]? = some (.accepted pid cid sk resp)) :
    ∃ td r1 ticket ts, Nex.rBuffer p.data = .ok (td, r1) ∧
      Nex.Kerberos.ServerTicket.decrypt s.kc s.key td = .ok ticket ∧
      Nex.DateTime.timestamp s.tz ticket.timestamp = .ok ts ∧
      ¬ ((ts + 120 - (s.epoch : Int)) * 1073741824 < (p.now : Int)) ∧
      pid = ticket.source ∧ sk = ticket.sessionKey := by
  rw [serve_getElem?, hp] at h
  exact present_admit_inv s p pid cid sk resp (by simpa using h)

/-- **the clause C17_pid of DESIGN.md §5, on the model (client and server composed)**: the CONNECT payload built from the credentials a plan ends in
    (`connect_credentials`: pid = the pid the authentication server issued), when admitted by the secure server under a
    ticket carrying the credentials' session key, is admitted as exactly that pid and cid and answered with `check + 1`
    (which is what `check_connection_response` demands), for every connection check the endpoint may have drawn. -/
theorem connect_admitted_as_issued (s : SecureServer) (c : Connect) (check : Nat) (data : Bytes) (now : Nat)
    (pid cid : Nat) (sk resp : Bytes)
    (hreq : connectRequest s.kc.pidSize c check = .ok data)
    (h : (s.present ⟨data, now⟩).2 = .accepted pid cid sk resp) (hsk : sk = c.ticket.sessionKey) :
    pid = c.pid ∧ cid = c.cid ∧ resp = u32le 4 ++ u32le ((check + 1) % 4294967296) :=
  connect_request_admitted s c check data now pid cid sk resp hreq h hsk

/-! non-vacuity. The hypotheses of `stale_ticket_refused_after_any_history` at a concrete point: a ticket stamped
    2023-11-14 22:13:20 UTC (epoch second 1700000000 — the simulation's epoch) is not stale 120 s later and is stale one tick
    (2^-30 s) after that. A whole admission under real keys (HMAC-MD5 and RC4, twice) is not evaluated in the kernel; the compiled
    driver does it on every run (`serve` lines of harness/corr_C17.py: every recorded `process_login_request`, e.g. the same CONNECT
    payload accepted at 119.75 s and refused at 120.25 s and a day later). -/
example : Nex.DateTime.timestamp 0 (Nex.DateTime.make ⟨2023, 11, 14, 22, 13, 20⟩) = .ok 1700000000 := by decide +kernel
example : ¬ (((1700000000 : Int) + 120 - ((1700000000 : Nat) : Int)) * 1073741824 < ((120 * 1073741824 : Nat) : Int)) := by decide +kernel
example : ((1700000000 : Int) + 120 - ((1700000000 : Nat) : Int)) * 1073741824 < ((120 * 1073741824 + 1 : Nat) : Int) := by decide +kernel
/-- `serve` computes: payloads that are not two buffers are refused with the stream's own exception, at any instant, in any order -/
example : serve ⟨⟨16, 4, 0⟩, 1700000000, 0, [107]⟩ [⟨[], 5⟩, ⟨[1, 0, 0, 0], 6⟩, ⟨[], 7⟩] =
    [.refuse .overflow, .refuse .overflow, .refuse .overflow] := by decide +kernel

/-! ## the client's last gate: the answer to its CONNECT

The station the authentication server advertises may be answered by somebody else than the secure server: a server
without any Kerberos key (the library's own keyless server acknowledges with an empty payload), one with another key,
one that echoes a wrong check value. `Backend.checkResponse` mirrors `PRUDPClient.check_connection_response`; the
handshake (hence `rmc.connect`, hence the login) completes only on a payload it accepts. That the real handshake really
waits for this verdict is NOT a theorem (it is the order of statements in `PRUDPClient.process_connect`): it is
established by running the real login against such servers (harness/corr_C17.py, family `fail:station:*`). -/

/-- a client with credentials accepts exactly one CONNECT/ACK payload: (4, check + 1 mod 2^32) as two little-endian u32 -/
theorem connect_answer_gate (check : Nat) (data : Bytes) :
    checkResponse true check data = .ok () ↔ data = u32le 4 ++ u32le ((check + 1) % 4294967296) := by
  rw [checkResponse_cred]
  by_cases h : data = u32le 4 ++ u32le ((check + 1) % 4294967296)
  · rw [if_pos h]; exact ⟨fun _ => h, fun _ => rfl⟩
  · rw [if_neg h]; exact ⟨nofun, fun h' => absurd h' h⟩

/-- every other payload — empty (a keyless server), wrong length, wrong length field, wrong check value — raises ValueError -/
theorem wrong_station_answer_refused (check : Nat) (data : Bytes)
    (h : data ≠ u32le 4 ++ u32le ((check + 1) % 4294967296)) : checkResponse true check data = .error .value := by
  rw [checkResponse_cred, if_neg h]

/-- in particular the empty acknowledgement of a server that holds no Kerberos key -/
theorem keyless_station_refused (check : Nat) : checkResponse true check [] = .error .value := rfl

/-- composed with the server side: the answer of a secure server that admitted the request built from the plan's
    credentials (`connect_admitted_as_issued`) passes the gate of the client that drew `check` -/
theorem admitted_answer_accepted (s : SecureServer) (c : Connect) (check : Nat) (data : Bytes) (now : Nat)
    (pid cid : Nat) (sk resp : Bytes)
    (hreq : connectRequest s.kc.pidSize c check = .ok data)
    (h : (s.present ⟨data, now⟩).2 = .accepted pid cid sk resp) (hsk : sk = c.ticket.sessionKey) :
    checkResponse true check resp = .ok () :=
  (connect_answer_gate check resp).mpr (connect_admitted_as_issued s c check data now pid cid sk resp hreq h hsk).2.2

/-! `connect_answer_gate` at points: the wrap of the check value (0xFFFFFFFF + 1 → 0); a wrong check value, length field, length;
    without credentials (`checkResponse false`) the empty payload passes and the right answer does not -/
example : checkResponse true 0xFFFFFFFF [4, 0, 0, 0, 0, 0, 0, 0] = .ok () := by decide +kernel
example : checkResponse true 0xFFFFFFFF [4, 0, 0, 0, 0xFF, 0xFF, 0xFF, 0xFF] = .error .value := by decide +kernel
example : checkResponse true 5 [4, 0, 0, 0, 6, 0, 0, 0] = .ok () ∧ checkResponse true 5 [4, 0, 0, 0, 5, 0, 0, 0] = .error .value ∧
    checkResponse true 5 [8, 0, 0, 0, 6, 0, 0, 0] = .error .value ∧ checkResponse true 5 [6, 0, 0, 0] = .error .value ∧
    checkResponse true 5 [4, 0, 0, 0, 6, 0, 0, 0, 0] = .error .value ∧ checkResponse false 5 [] = .ok () ∧
    checkResponse false 5 [4, 0, 0, 0, 6, 0, 0, 0] = .error .value := by decide +kernel

end Nx.C17
