import NxProofs.RmcClient
import NxProofs.RmcClientX
import NxProofs.RmcClientMulti
import NxProofs.RmcClientAbort
/-!
# C10 — each remote call gets its own response, whatever the interleaving

Model: `NxModel/Nex/RmcClient.lean` — `step` mirrors the atomic sections of `RMCClient.request`, the
`start` loop and `cleanup` (shared `requests` / `responses` dicts, 32-bit wrapping call id counter);
`CallSpec.step` is the specification: every outstanding call keeps *its own* slot holding the first
response that carried its call id since it registered; a resumed call returns that response, or raises
"closed" if the connection closed first. Ops are arbitrary interleavings of calls, received responses
(any ids: unknown, duplicate), received requests, peer EOF, local cleanup/close/disconnect, and task
resumptions — `List Op` covers every schedule, every crash point and every input at once.

Hypothesis H-ids (`distinctLive`): when a call registers, its fresh id is not the id of a call still
outstanding. It is forced: the counter wraps at 2^32 and `self.requests[call_id] = event` overwrites
(see `wrap_counterexample`). It holds whenever fewer than 2^32 − 1 calls are made on the connection
(`few_calls_distinct`).
Trusted runtime: a task whose `anyio.Event` is set is eventually resumed (`wake`), and never otherwise.
Lemmas: `NxProofs/RmcClient*.lean`.
-/
namespace Nx.C10
open Nx.Rmc Nx.RmcClient

/-- every request id, every completion (returned body / RMC error code / "closed" / `None`) and every
    readiness of the implementation equals the specification's, on every op sequence with distinct live ids
    (`n` = initial value of the call id counter; the library starts at 1) -/
theorem C10_refines_spec (n : Nat) (ops : List Op) (hd : distinctLive { init with nextId := n } ops = true) :
    (run { init with nextId := n } ops).2.filter Out.observable
      = (CallSpec.run { CallSpec.init with nextId := n } ops).2 :=
  (run_refines (rel_init n) ops hd).2

/-- H-ids is satisfiable and holds for every run with fewer than 2^32 − 1 calls -/
theorem few_calls_distinct (ops : List Op) (h : nCalls ops < 4294967295) : distinctLive init ops = true :=
  distinctLive_of_small init ops (by simp [init]) (by simp [init]; omega)

/-- no cross-talk: a call that completes has either been told "closed", or was response-less, or returns
    exactly the outcome (body, or error code) of a received response whose call id is the id its own request carried -/
theorem no_cross_talk (ops : List Op) (hd : distinctLive init ops = true) (t : Nat) (o : Outcome)
    (h : Out.done t o ∈ (run init ops).2) :
    o = .closed ∨ o = .none ∨
      ∃ id m, Out.sent t id ∈ (run init ops).2 ∧ Op.recvResponse m ∈ ops ∧ m.callId = id ∧ o = outcomeOf m :=
  run_no_cross_talk ops hd t o h

/-- in particular, under H-ids, `responses.pop(call_id)` does not raise `KeyError` -/
theorem no_key_error (ops : List Op) (hd : distinctLive init ops = true) (t : Nat) :
    Out.done t .keyError ∉ (run init ops).2 := by
  intro h
  rcases no_cross_talk ops hd t _ h with e | e | ⟨_, m, _, _, _, e⟩
  · cases e
  · cases e
  · unfold outcomeOf at e; split at e <;> cases e

/-- the first response wins: once a call's slot holds a response, a later one with the same id does not replace it -/
theorem first_response_wins (m m' : Msg) (c : SCall) (h : c.id = m.callId) : upd m' (upd m c) = upd m c := by
  unfold upd
  cases hr : c.resp <;> simp [h, hr]

/-- unsolicited and duplicate responses are inert: in any reachable open state a response whose id is not the
    id of an outstanding unanswered call (never allocated, already answered, already completed) changes
    nothing at all — neither the implementation state nor any call's slot — and is dropped with the warning -/
theorem dup_unknown_inert (ops : List Op) (hd : distinctLive init ops = true) (m : Msg)
    (hopen : (run init ops).1.closed = false)
    (hno : ∀ c ∈ (CallSpec.run CallSpec.init ops).1.calls, c.id = m.callId → c.resp ≠ none) :
    step (run init ops).1 (.recvResponse m) = ((run init ops).1, [.warnInvalidCallId m.callId]) ∧
    (CallSpec.step (CallSpec.run CallSpec.init ops).1 (.recvResponse m)).1 = (CallSpec.run CallSpec.init ops).1 :=
  response_inert (run_refines (rel_init 1) ops hd).1 hopen m hno

/-- a call whose response has arrived (and whose connection is still open) resumes with exactly that response -/
theorem answered_call_returns_its_response (ops : List Op) (hd : distinctLive init ops = true)
    (hopen : (run init ops).1.closed = false) (c : SCall) (hc : c ∈ (CallSpec.run CallSpec.init ops).1.calls)
    (m : Msg) (hr : c.resp = some m) :
    (step (run init ops).1 (.wake c.task)).2 = [.done c.task (outcomeOf m)] :=
  wake_answered (run_refines (rel_init 1) ops hd).1 hopen c hc m hr

/-- closure at any moment (peer EOF or local cleanup/close/disconnect), followed by anything: the connection
    stays closed, every still-suspended call has its event set (none is left pending) and resuming it raises
    "closed" — it never reads a response, its own or another's -/
theorem close_wakes_all (ops : List Op) (hd : distinctLive init ops = true) (closeOp : Op)
    (hclose : closeOp = .eof ∨ closeOp = .cleanup) (later : List Op) :
    let s := (run (step (run init ops).1 closeOp).1 later).1
    s.closed = true ∧ ∀ p ∈ s.frames, p.1 ∈ s.fired ∧ (step s (.wake p.1)).2 = [.done p.1 .closed] :=
  close_wakes (run_refines (rel_init 1) ops hd).1 closeOp hclose later

/-- a call made on a closed connection raises "closed" without sending anything -/
theorem call_after_close (s : State) (h : s.closed = true) (nr : Bool) :
    (step s (.call nr)).2 = [.done s.nextTask .closed] := by
  simp [step, h]

/-- without H-ids the property fails (2^32 calls while one is outstanding): the second call with id 5 overwrites
    the first one's event; the response wakes only the newer call and the older one hangs -/
theorem wrap_counterexample :
    let s0 : State := { init with nextId := 5, nextTask := 1, requests := [(5, 0)], frames := [(0, 5)] }
    let r : Msg := { mode := 1, protocol := 10, method := some 1, callId := 5, error := -1, body := [7] }
    distinctLive s0 [.call false] = false ∧
    (run s0 [.call false, .recvResponse r, .wake 1, .wake 0]).2
      = [.sent 1 5, .set 1, .done 1 (.body [7]), .notReady 0] := by
  decide

/-! ## one-way requests (`noresponse=True`) and requests in general: a call id names one request message -/

/-- every request message of a run — one-way requests included — carries a call id of its own while the counter
    does not wrap (fewer than 2^32 − 1 requests). So the answer a peer gives to a one-way request (or to any other
    request) echoes an id that no other request carries: by `dup_unknown_inert` it reaches no other caller. -/
theorem request_ids_distinct (ops : List Op) (h : nCalls ops < 4294967295) (t t' id : Nat)
    (h1 : Out.sent t id ∈ (run init ops).2) (h2 : Out.sent t' id ∈ (run init ops).2) : t = t' :=
  sent_ids_distinct init ops (by simp [init]; omega) t t' id h1 h2

/-- a one-way request consumes its call id exactly like a call that waits (the next request gets the next id),
    returns `None` at once and leaves nothing registered -/
theorem oneway_consumes_id (s : State) (hc : s.closed = false) :
    step s (.call true) = ({ s with nextTask := s.nextTask + 1, nextId := (s.nextId + 1) % 4294967296 },
      [.sent s.nextTask s.nextId, .done s.nextTask .none]) := by
  simp [step, hc]

/-! ## connections with protocol servers registered (`RMCClient.start(servers)`): `cleanup()` awaits every
    `server.logout(self)` after the atomic section that sets `closed` and the events. The extended machine
    (`NxModel/Nex/RmcClientX.lean`) adds the two ways a hook can end (`hookReturn`, `hookRaise`) to the ops; a
    hook that blocks for ever is the absence of both. -/

/-- the call-matching behaviour of a connection with `k` servers is that of the core machine on the core ops,
    whatever the logout hooks do and whenever they do it: every theorem above carries over -/
theorem servers_do_not_matter (k : Nat) (ops : List XOp) :
    (xrun (xinit 1 k) ops).1.core = (run init (coreOps ops)).1 ∧
      coreOuts (xrun (xinit 1 k) ops).2 = (run init (coreOps ops)).2 :=
  xrun_core (xinit 1 k) ops

/-- closure at any moment of a connection with any number of servers, followed by anything — including logout
    hooks that return late, raise, or never return (`later` then simply contains no `hookReturn`): every
    still-suspended call has its event set and resuming it raises "closed" -/
theorem close_wakes_all_with_servers (k : Nat) (ops : List XOp) (hd : distinctLive init (coreOps ops) = true)
    (closeOp : Op) (hclose : closeOp = .eof ∨ closeOp = .cleanup) (later : List XOp) :
    let x := (xrun (xstep (xrun (xinit 1 k) ops).1 (.core closeOp)).1 later).1
    x.core.closed = true ∧
      ∀ p ∈ x.core.frames, p.1 ∈ x.core.fired ∧ (xstep x (.core (.wake p.1))).2 = [.core (.done p.1 .closed)] := by
  intro x
  have hx : x.core = (run (step (xrun (xinit 1 k) ops).1.core closeOp).1 (coreOps later)).1 :=
    (xrun_core _ later).1.trans (congrArg (fun s => (run s (coreOps later)).1) (xstep_core _ (.core closeOp)).1)
  obtain ⟨c1, c2⟩ := close_wakes (xrun_rel (x := xinit 1 k) (rel_init 1) ops hd) closeOp hclose (coreOps later)
  rw [← hx] at c1 c2
  exact ⟨c1, fun p hp => ⟨(c2 p hp).1, by rw [xstep_wake_outs, (c2 p hp).2]; rfl⟩⟩

/-- a logout hook is entered (and `cleanup()` ends, normally or by a hook's exception) only when the connection is
    already closed and every suspended call already has its event set: waking the callers never depends on a hook -/
theorem hooks_run_after_wake (k : Nat) (ops : List XOp) (op : XOp)
    (hd : distinctLive init (coreOps (ops ++ [op])) = true) (o : XOut)
    (ho : o ∈ (xstep (xrun (xinit 1 k) ops).1 op).2)
    (hk : (∃ srv, o = .logout srv) ∨ o = .cleanupReturned ∨ o = .cleanupRaised) :
    let x := (xstep (xrun (xinit 1 k) ops).1 op).1
    x.core.closed = true ∧ ∀ p ∈ x.core.frames, p.1 ∈ x.core.fired := by
  intro x
  have hc : x.core.closed = true := xstep_hooks _ op (xrun_inv (xinit 1 k) ops (by simp [xinit])) (.inr ⟨o, ho, hk⟩)
  have hR := xrun_rel (x := xinit 1 k) (rel_init 1) (ops ++ [op]) hd
  rw [xrun_append] at hR
  exact ⟨hc, fun p hp => (closed_frames_ready hR hc p hp).1⟩

/-! ## traffic in both directions on one connection: the peer sends requests of its own (to the servers registered
    with `start(servers)` / `rmc.connect(..., servers=[...])`, or to nobody) whose call ids come from the peer's own
    counter — both ends count from 1, so they regularly EQUAL the ids of our outstanding calls. `XOp.peerRequest r`
    = the receive loop got a REQUEST message `r` (any protocol, method, call id) and ran `handle_request` up to its
    first await; `XOp.handlerEnd ok` = the executing `server.handle` returned / raised and the answer was sent. -/

/-- a request of the peer is not a response: in ANY state, whatever its call id (in particular the id of an
    outstanding call), it leaves `requests`, `responses`, the events and the suspended calls exactly as they were
    and completes / wakes / warns nobody -/
theorem peer_request_is_not_a_response (x : XState) (r : PeerReq) :
    (xstep x (.peerRequest r)).1.core = x.core ∧ coreOuts (xstep x (.peerRequest r)).2 = [] :=
  xstep_core x (.peerRequest r)

/-- hence every request id, every completion and the whole call-matching state of a run with bidirectional traffic
    (and any logout hooks) are those of the core machine on the run from which every peer request has been removed:
    all theorems above (`C10_refines_spec`, `no_cross_talk`, `close_wakes_all`, ...) apply to it verbatim -/
theorem peer_requests_affect_no_caller (k : Nat) (ops : List XOp) :
    (xrun (xinit 1 k) ops).1.core = (run init ((coreOps ops).filter fun op => op != .recvRequest)).1 ∧
      coreOuts (xrun (xinit 1 k) ops).2 = (run init ((coreOps ops).filter fun op => op != .recvRequest)).2 := by
  rw [← run_drop_requests]
  exact xrun_core (xinit 1 k) ops

/-- every request of the peer is served exactly once, in the order received and under its own call id: it is handed
    to a registered server's `handle`, or refused at once with the NotImplemented answer — whatever calls of ours are
    outstanding under whatever ids, whatever the interleaving with responses, closures and hooks -/
theorem peer_requests_served_once (k : Nat) (ops : List XOp) :
    servedIds (xrun (xinit 1 k) ops).2 = (peerReqs ops).map (·.callId) :=
  xrun_served (xinit 1 k) ops

/-- which server: the one registered under the request's protocol id, if any; NotImplemented only if there is none -/
theorem peer_request_goes_to_its_protocol (x : XState) (r : PeerReq) :
    (∀ srv, serverFor x r.protocol = some srv →
        srv ∈ x.servers ∧ protoOf srv = r.protocol ∧ (xstep x (.peerRequest r)).2 = [.dispatch srv r.method r.callId]) ∧
    (serverFor x r.protocol = none →
        (∀ srv ∈ x.servers, protoOf srv ≠ r.protocol) ∧ (xstep x (.peerRequest r)).2 = [.notImplemented r.protocol r.callId]) := by
  refine ⟨fun srv h => ⟨List.mem_of_find?_eq_some h, by simpa using List.find?_some h, by simp [xstep, step, h]⟩, fun h => ⟨?_, by simp [xstep, step, h]⟩⟩
  intro srv hs
  have := List.find?_eq_none.mp h srv hs
  simpa using this

/-- the answer sent when a handler ends carries the call id (and protocol) of the request that handler was given -/
theorem handler_answer_carries_request_id (x : XState) (r : PeerReq) (ok : Bool) (h : x.handling = some r) :
    (xstep x (.handlerEnd ok)).2 = [.answer r.protocol r.callId ok] := by
  simp [xstep, h]

/-- every answer sent in a run carries the call id of a peer request served in that run (handed to a handler or refused);
    that the request came first is not part of the statement -/
theorem answers_are_to_dispatched_requests (k : Nat) (ops : List XOp) :
    ∀ id ∈ answeredIds (xrun (xinit 1 k) ops).2, id ∈ servedIds (xrun (xinit 1 k) ops).2 := by
  exact xrun_answered (xinit 1 k) ops _ (by simp [xinit]) fun _ h => h

/-! ## several connections in one process (`BackEndClient.login` holds the authentication and the secure connection;
    a server holds one `RMCClient` per peer): `__init__` gives every client object its own counter, `requests`,
    `responses`, `servers` and `closed`, and no method touches anything but `self` — so the process is the list of its
    connection states (`NxModel/Nex/RmcClientMulti.lean`) and an atomic section of connection `c` is `xstep` on the
    `c`-th element. All connections count their calls from 1: equal call ids are outstanding on several connections. -/

/-- every connection of a process behaves as if it were alone: in any interleaving of the atomic sections of any
    number of connections, the state and the outputs of connection `c` are those of the single-connection machine on
    `c`'s own sections. Every theorem above therefore holds for each connection of a process with many. -/
theorem connections_independent (ks : List Nat) (ops : List MOp) (c : Nat) (hc : c < ks.length) :
    (mrun (minit 1 ks) ops).1[c]? = some (xrun (xinit 1 ks[c]) (opsOf c ops)).1 ∧
      outsOf c (mrun (minit 1 ks) ops).2 = (xrun (xinit 1 ks[c]) (opsOf c ops)).2 :=
  mrun_conn _ ops c _ (minit_get 1 ks c hc)

/-- whatever another connection does — registers a call under an id outstanding here, receives a response, a stray
    or a request carrying such an id, is closed by its peer or locally, resumes a task, ends a hook or a handler —
    this connection's state is not touched and nothing is output on it -/
theorem other_connection_is_inert (ms : List XState) (o : MOp) (c : Nat) (h : o.conn ≠ c) :
    (mstep ms o).1[c]? = ms[c]? ∧ outsOf c (mstep ms o).2 = [] :=
  mstep_other ms o c h

/-- the request ids and completions of the calls of connection `c` are those of the core machine on `c`'s own core
    ops (its peer's requests removed): `C10_refines_spec`, `dup_unknown_inert`, ... apply to it verbatim -/
theorem calls_of_a_connection_see_only_it (ks : List Nat) (ops : List MOp) (c : Nat) (hc : c < ks.length) :
    coreOuts (outsOf c (mrun (minit 1 ks) ops).2)
      = (run init ((coreOps (opsOf c ops)).filter fun op => op != .recvRequest)).2 := by
  rw [(connections_independent ks ops c hc).2]
  exact (peer_requests_affect_no_caller ks[c] (opsOf c ops)).2

/-- no cross-talk between connections: a call that completes on connection `c` was told "closed", or was
    response-less, or returns exactly the outcome of a response that was received ON CONNECTION `c` and whose call id
    is the id its own request carried — never something received on another connection, whatever ids that one uses -/
theorem no_cross_talk_between_connections (ks : List Nat) (ops : List MOp) (c : Nat) (hc : c < ks.length)
    (hd : distinctLive init ((coreOps (opsOf c ops)).filter fun op => op != .recvRequest) = true) (t : Nat) (o : Outcome)
    (h : (c, XOut.core (.done t o)) ∈ (mrun (minit 1 ks) ops).2) :
    o = .closed ∨ o = .none ∨
      ∃ id m, (c, XOut.core (.sent t id)) ∈ (mrun (minit 1 ks) ops).2 ∧
        (⟨c, .core (.recvResponse m)⟩ : MOp) ∈ ops ∧ m.callId = id ∧ o = outcomeOf m := by
  have e := calls_of_a_connection_see_only_it ks ops c hc
  have h' : Out.done t o ∈ (run init ((coreOps (opsOf c ops)).filter fun op => op != .recvRequest)).2 := by
    rw [← e]; exact mem_coreOuts.mpr (mem_outsOf.mpr h)
  exact (run_no_cross_talk _ hd t o h').imp (S' := fun t id => (c, XOut.core (.sent t id)) ∈ (mrun (minit 1 ks) ops).2)
    (fun id s1 => mem_outsOf.mp (mem_coreOuts.mp (e ▸ s1))) fun m s2 => mem_opsOf_recvResponse c ops m (List.mem_filter.mp s2).1

/-- closing one connection at any moment — by its peer or locally — in a process with any number of others, followed
    by anything on any connection: every still-suspended call OF THAT CONNECTION has its event set and raises
    "closed" when resumed; by `other_connection_is_inert` the closure touches no call of any other connection -/
theorem close_wakes_all_of_that_connection (ks : List Nat) (ops : List MOp) (c : Nat) (hc : c < ks.length)
    (hd : distinctLive init (coreOps (opsOf c ops)) = true)
    (closeOp : Op) (hclose : closeOp = .eof ∨ closeOp = .cleanup) (later : List MOp) :
    ∃ x, (mrun (minit 1 ks) (ops ++ ⟨c, .core closeOp⟩ :: later)).1[c]? = some x ∧ x.core.closed = true ∧
      ∀ p ∈ x.core.frames, p.1 ∈ x.core.fired ∧ (xstep x (.core (.wake p.1))).2 = [.core (.done p.1 .closed)] := by
  refine ⟨_, (connections_independent ks _ c hc).1, ?_⟩
  rw [opsOf_append, xrun_append, opsOf, if_pos rfl]
  simp only [xrun]
  exact close_wakes_all_with_servers ks[c] (opsOf c ops) hd closeOp hclose (opsOf c later)

/-! ## callers that end while suspended: `await self.client.send(...)` raises, or the task is cancelled inside `send`
    (back pressure, the transport's send lock) or while waiting for its response (`NxModel/Nex/RmcClientAbort.lean`).
    `request()` has no handler around either await: the frame is discarded, the object is not touched (`abort t`). -/

/-- the abandoned call leaves the id counter, both maps, `closed`, the set events, the servers / hooks / handler in progress
    and the frame of every other suspended call exactly as they were -/
theorem abort_touches_only_its_frame (x : XState) (t : Nat) :
    (astep x (.abort t)).1.core.nextId = x.core.nextId ∧ (astep x (.abort t)).1.core.nextTask = x.core.nextTask ∧
    (astep x (.abort t)).1.core.requests = x.core.requests ∧ (astep x (.abort t)).1.core.responses = x.core.responses ∧
    (astep x (.abort t)).1.core.closed = x.core.closed ∧ (astep x (.abort t)).1.core.fired = x.core.fired ∧
    (astep x (.abort t)).1.servers = x.servers ∧ (astep x (.abort t)).1.pending = x.pending ∧
    (astep x (.abort t)).1.status = x.status ∧ (astep x (.abort t)).1.handling = x.handling ∧
    ∀ t', t' ≠ t → dlookup t' (astep x (.abort t)).1.core.frames = dlookup t' x.core.frames := by
  simp only [astep]
  split
  · simp
  · simp only [abortFrame, true_and]
    intro t' h
    exact dlookup_derase_ne h _

/-- resuming any other task gives the same outputs after the abort as before it: a suspended call, registered before or
    after the abandoned one, completes as it would have (with the response stored under its id, or "closed") -/
theorem abort_affects_no_other_caller (x : XState) (t t' : Nat) (h : t' ≠ t) :
    (xstep (astep x (.abort t)).1 (.core (.wake t'))).2 = (xstep x (.core (.wake t'))).2 := by
  obtain ⟨_, _, _, h4, h5, h6, _, _, _, _, h11⟩ := abort_touches_only_its_frame x t
  have hw := wake_congr x.core (astep x (.abort t)).1.core t' (h11 t' h) h6 h5 h4
  simp only [xstep, runsCleanup, Bool.false_eq_true, if_false, hw]

/-- the request messages of a run — which task sent which call id — are those of the same run with the failures /
    cancellations left out: calls made after a failure take the ids they would have taken anyway -/
theorem aborts_do_not_change_ids (x : XState) (ops : List AOp) :
    sentOf (arun x ops).2 = sentOf (arun x (dropAborts ops)).2 := by
  rw [(arun_crun x ops).2, (arun_crun x _).2, xopsOf_dropAborts]

/-- all request messages of a run in which any callers fail or are cancelled at any moments carry pairwise distinct call
    ids below 2^32 − 1 requests: a later call never takes the id of an outstanding call, nor the id of an abandoned one
    (whose request may have reached the peer) -/
theorem request_ids_distinct_with_aborts (k : Nat) (ops : List AOp) (h : nCalls (coreOps (xopsOf ops)) < 4294967295)
    (t t' id : Nat) (h1 : (t, id) ∈ sentOf (arun (xinit 1 k) ops).2) (h2 : (t', id) ∈ sentOf (arun (xinit 1 k) ops).2) :
    t = t' := by
  rw [(arun_crun _ ops).2] at h1 h2
  exact crun_distinct _ _ (by show 1 + _ < _; omega) t t' id h1 h2

/-! non-vacuity, by the theorems witnessed -/
-- `abort_affects_no_other_caller`, `aborts_do_not_change_ids`: A (task 0) fails inside send while B, C (tasks 1, 2) are
-- outstanding, D (task 3) is called afterwards; the peer answers C, then the abandoned request of A (stored, nobody reads
-- it), then D and B. Then `h` of `request_ids_distinct_with_aborts`, and the call after an abort taking id 2
example : (arun (xinit 1 0) [.x (.core (.call false)), .x (.core (.call false)), .x (.core (.call false)), .abort 0, .x (.core (.call false)),
    .x (.core (.recvResponse { mode := 1, protocol := 10, method := some 1, callId := 3, error := -1, body := [3] })),
    .x (.core (.recvResponse { mode := 1, protocol := 10, method := some 1, callId := 1, error := -1, body := [1] })),
    .x (.core (.recvResponse { mode := 1, protocol := 10, method := some 1, callId := 4, error := -1, body := [4] })),
    .x (.core (.recvResponse { mode := 1, protocol := 10, method := some 1, callId := 2, error := -1, body := [2] })),
    .x (.core (.wake 2)), .x (.core (.wake 3)), .x (.core (.wake 1)), .x (.core (.wake 0)), .abort 0]).2
    = [.x (.core (.sent 0 1)), .x (.core (.sent 1 2)), .x (.core (.sent 2 3)), .aborted 0, .x (.core (.sent 3 4)),
       .x (.core (.set 2)), .x (.core (.set 0)), .x (.core (.set 3)), .x (.core (.set 1)),
       .x (.core (.done 2 (.body [3]))), .x (.core (.done 3 (.body [4]))), .x (.core (.done 1 (.body [2]))),
       .x (.core (.noSuchTask 0)), .noSuchCall 0] := by decide +kernel
example : nCalls (coreOps (xopsOf [.x (.core (.call false)), .abort 0, .x (.core (.call false))])) < 4294967295 := by decide +kernel
example : sentOf (arun (xinit 1 0) [.x (.core (.call false)), .abort 0, .x (.core (.call false))]).2 = [(0, 1), (1, 2)] := by decide +kernel

-- `peer_requests_served_once`, `peer_request_goes_to_its_protocol`, `peer_requests_affect_no_caller`: the peer's requests
-- carry the ids 1, 2 of our two outstanding calls; one is dispatched and answered, one refused, our calls get their own
-- responses. Then both cases of `serverFor`, and `peerReqs` of a run
example : (xrun (xinit 1 1) [.core (.call false), .core (.call false), .peerRequest ⟨80, 7, 1⟩, .handlerEnd true,
    .peerRequest ⟨10, 7, 2⟩, .core (.recvResponse { mode := 1, protocol := 10, method := some 1, callId := 2, error := -1, body := [4] }),
    .core (.recvResponse { mode := 1, protocol := 10, method := some 1, callId := 1, error := -1, body := [5] }),
    .core (.wake 0), .core (.wake 1)]).2
    = [.core (.sent 0 1), .core (.sent 1 2), .dispatch 0 7 1, .answer 80 1 true, .notImplemented 10 2, .core (.set 1), .core (.set 0),
       .core (.done 0 (.body [5])), .core (.done 1 (.body [4]))] := by decide +kernel
example : serverFor (xinit 1 2) 81 = some 1 ∧ serverFor (xinit 1 2) 10 = none := by decide +kernel
example : peerReqs [.core (.call false), .peerRequest ⟨80, 7, 1⟩, .handlerEnd true, .peerRequest ⟨10, 7, 2⟩] = [⟨80, 7, 1⟩, ⟨10, 7, 2⟩] := by decide +kernel

-- the core machine: H-ids (`hd` of `C10_refines_spec`, `no_cross_talk`, ...) on a run with a response, a wake and a cleanup;
-- `dup_unknown_inert`: the second response for id 2 is dropped with the warning, an error response completes with its code;
-- `h` of `few_calls_distinct`; `close_wakes_all`: after EOF the suspended call raises "closed"
example : distinctLive init [.call false, .call false, .recvResponse { mode := 1, protocol := 10, method := some 1, callId := 2, error := -1, body := [1] },
    .wake 1, .cleanup, .wake 0] = true := by decide +kernel
example : (run init [.call false, .call false, .recvResponse { mode := 1, protocol := 10, method := some 1, callId := 2, error := -1, body := [1] },
    .recvResponse { mode := 1, protocol := 10, method := some 1, callId := 2, error := -1, body := [9] },
    .recvResponse { mode := 1, protocol := 10, method := none, callId := 1, error := 0x80010005, body := [] },
    .wake 1, .wake 0]).2
    = [.sent 0 1, .sent 1 2, .set 1, .warnInvalidCallId 2, .set 0, .done 1 (.body [1]), .done 0 (.rmcError 0x80010005)] := by decide +kernel
example : nCalls [.call false, .eof, .call true] < 4294967295 := by decide +kernel
example : (run init [.call false, .eof, .wake 0]).2 = [.sent 0 1, .closing [0], .done 0 .closed] := by decide +kernel

-- `close_wakes_all_with_servers`, `hooks_run_after_wake`: two servers, the first hook returns, the second raises and ends
-- `cleanup()`, the callers are woken all the same; without servers `cleanup()` returns at once; `hd` of both theorems
example : (xrun (xinit 1 2) [.core (.call false), .core (.call true), .core (.call false), .core .cleanup, .core (.wake 0), .hookReturn,
    .hookRaise, .core (.wake 2)]).2
    = [.core (.sent 0 1), .core (.sent 1 2), .core (.done 1 .none), .core (.sent 2 3), .core (.closing [2, 0]), .logout 0,
       .core (.done 0 .closed), .logout 1, .cleanupRaised, .core (.done 2 .closed)] := by decide +kernel
example : (xrun (xinit 1 0) [.core (.call false), .core .eof]).2 = [.core (.sent 0 1), .core (.closing [0]), .cleanupReturned] := by decide +kernel
example : distinctLive init (coreOps [.core (.call false), .core .cleanup, .hookReturn]) = true := by decide +kernel

-- `connections_independent`, `no_cross_talk_between_connections`: call id 1 is outstanding on both connections, each call
-- returns what its own connection received, closing connection 1 leaves 0 alone; then `opsOf` on a small run
example : (mrun (minit 1 [0, 0]) [⟨0, .core (.call false)⟩, ⟨1, .core (.call false)⟩,
    ⟨1, .core (.recvResponse { mode := 1, protocol := 10, method := some 1, callId := 1, error := -1, body := [9] })⟩, ⟨1, .core (.wake 0)⟩,
    ⟨1, .core .eof⟩, ⟨0, .core (.recvResponse { mode := 1, protocol := 10, method := some 1, callId := 1, error := -1, body := [4] })⟩,
    ⟨0, .core (.wake 0)⟩]).2
    = [(0, .core (.sent 0 1)), (1, .core (.sent 0 1)), (1, .core (.set 0)), (1, .core (.done 0 (.body [9]))), (1, .core (.closing [])),
       (1, .cleanupReturned), (0, .core (.set 0)), (0, .core (.done 0 (.body [4])))] := by decide +kernel
example : opsOf 1 [⟨0, .core (.call false)⟩, ⟨1, .core .eof⟩, ⟨1, .hookReturn⟩] = [.core .eof, .hookReturn] := by decide +kernel

end Nx.C10
