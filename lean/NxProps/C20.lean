import NxProofs.ApiInventory
import NxProofs.ApiSettings
import NxProofs.ApiSetters
import NxProofs.ApiWire
import NxProofs.ApiSetSeq
import NxProofs.ApiReject
/-!
# C20 — the documented public API exists and every documented knob takes effect

* **Inventory** (generated, per reference page, on every run): `coversM documented actual = true` and
  `namesAgreeM documented actual = true` by `decide +kernel` over the Nat-coded tables the translators
  (`tools/api_docs.py`, `tools/api_actual.py`) emit; the lifting theorems below say what a `true` means.
* **Settings** (`NxModel/Api/Settings.lean`): typed `__setitem__`, unknown key rejected, `copy()` independent;
  generated obligations: the translated `field_types` equals the model's key table, the four shipped `.cfg`
  files load (on top of `default`) to fully typed tables, `default.cfg` loads to `Nx.Api.defaults`.
* **Effects** (`NxModel/Api/Effects.lean`, `Legacy.lean`, `NxModel/Switch/*`): for every settings key and every
  setter an explicit pair of values whose observations differ.  A model that mirrors the code cannot prove an
  effect the code does not have: for `prudp.encryption` the *negation* is the theorem (defect D8, open finding).
  `nasc.set_sdk_version` (D7) and `HppClient()` (D6) are modelled as the one-line fixes fixes/C20_nasc_sdk_version.diff and
  fixes/C20_hpp_cert.diff have them; a tree without these fixes is reported through the correspondence and the oracle.
Lemmas: `NxProofs/Api*.lean`.
-/
namespace Nx.C20
open Nx.Api Nx.Http Nx.Switch

/-! ## inventory: what the generated Bool obligations mean -/

/-- every documented signature has a code signature of the same module / class / name and kind that accepts the
    documented call shape -/
theorem covers_lifts {D : List Sig} {A : List ASig} (h : covers D A = true) : ∀ d ∈ D, ∃ a ∈ A, sigMatches d a = true :=
  covers_sound h

/-- the same from the linear pass, which is what the generated files evaluate -/
theorem coversM_lifts {D : List Sig} {A : List ASig} (h : coversM D A = true) : ∀ d ∈ D, ∃ a ∈ A, sigMatches d a = true :=
  covers_sound (coversM_covers h)

/-- documented positional parameter names equal the code's (the keyword reading) -/
theorem names_lift {D : List Sig} {A : List ASig} (h : namesAgreeM D A = true) : NamesSpec D A :=
  names_spec (namesAgreeM_namesAgree h)

/-- the failing-input search is complete: no uncovered signature is reported iff the obligation holds -/
theorem first_uncovered_complete (D : List Sig) (A : List ASig) : firstUncovered D A = none ↔ covers D A = true :=
  firstUncovered_none_iff D A

/-! ## settings_typed_copy_independent -/

/-- `settings[name] = value` stores a value of the declared type under exactly that key -/
theorem settings_setitem_typed {s s' : Settings} {name : List Char} {v : PyVal} (h : s.setitem name v = .ok s') :
    ∃ k x, Key.ofChars? name = some k ∧ s' k = some x ∧ x.ty = k.ty ∧ ∀ k', k' ≠ k → s' k' = s k' := by
  obtain ⟨k, x, hk, hc, rfl⟩ := setitem_ok h
  refine ⟨k, x, hk, by simp [Settings.set], coerce_ty hc, ?_⟩
  intro k' hne
  simp [Settings.set, hne]

/-- an unknown name is a `KeyError` for both assignment and lookup (nothing is stored) -/
theorem settings_unknown_key_rejected (s : Settings) (name : List Char) (v : PyVal) (h : Key.ofChars? name = none) :
    s.setitem name v = .error .key ∧ s.getitem name = .error .key :=
  ⟨by simp [Settings.setitem, h], by simp [Settings.getitem, h]⟩

/-- each of the 22 names of `field_types` is a known key -/
theorem settings_known_names (k : Key) : Key.ofChars? k.name.toList = some k := ofChars_name k

/-- `copy()` is a new object with the same contents; assigning through either leaves the other unchanged -/
theorem settings_copy_independent (h : Heap) (r : Nat) (hr : r < h.length) (name : List Char) (v : PyVal) :
    ((h.copy r).2 ≠ r ∧ Heap.get (h.copy r).1 (h.copy r).2 = Heap.get h r) ∧
    (∀ h', (h.copy r).1.setitem (h.copy r).2 name v = .ok h' → Heap.get h' r = Heap.get h r) ∧
    (∀ h', (h.copy r).1.setitem r name v = .ok h' → Heap.get h' (h.copy r).2 = Heap.get h r) :=
  ⟨⟨(copy_fresh h r hr).1, (copy_fresh h r hr).2.1⟩, copy_independent h r hr name v⟩

example : Key.ofChars? "prudp.bogus".toList = none := ofChars?_eq_none (by simp [Key.all, Key.name])
example : ((Settings.empty.setitem "prudp.version".toList (.str " 1 ".toList)).map fun s => s .prudpVersion) = .ok (some (.int 1)) := by
  rw [Settings.setitem, show Key.ofChars? "prudp.version".toList = some .prudpVersion from ofChars_name .prudpVersion]; decide +kernel
example : ((Settings.empty.setitem "prudp.version".toList (.str "x".toList)).map fun s => s .prudpVersion) = .error .value := by
  rw [Settings.setitem, show Key.ofChars? "prudp.version".toList = some .prudpVersion from ofChars_name .prudpVersion]; decide +kernel

/-! ## every setting takes effect (explicit witnesses), except the one nobody reads -/

/-- for each of the 21 other keys two values (`witness k`), set on top of `default.cfg`, give different observations at the
    consumers (`observe`, NxModel/Api/Effects.lean) -/
theorem setting_takes_effect (k : Key) (hk : k ≠ .prudpEncryption) :
    ∃ v₁ v₂, observe (defaults.set k v₁) ≠ observe (defaults.set k v₂) :=
  ⟨(witness k).1, (witness k).2, setting_effect k hk⟩

/-- D8: `prudp.encryption` is documented but consulted by no consumer -/
theorem prudp_encryption_has_no_effect (s : Settings) (v₁ v₂ : Val) :
    observe (s.set .prudpEncryption v₁) = observe (s.set .prudpEncryption v₂) :=
  rfl

/-! ## every setter of every HTTP client takes effect -/

/-- dauth: `set_host` shows in the host handed to the callback, `set_power_state` in `X-Nintendo-PowerState`, for any two distinct
    values; `set_platform_region` (1 vs 2) in the `ist` field of a token request -/
theorem dauth_setters_effect (s : Dauth) (a b : String) (hne : a ≠ b) (cid : Nat) (ch mac : String) :
    hostsOf (({ s with host := a }).call .challenge) ≠ hostsOf (({ s with host := b }).call .challenge) ∧
    hdrOf "X-Nintendo-PowerState" (({ s with powerState := a }).call .challenge) ≠ hdrOf "X-Nintendo-PowerState" (({ s with powerState := b }).call .challenge) ∧
    formOf "ist" (({ s with region := 1 }).call (.deviceToken cid ch mac)) ≠ formOf "ist" (({ s with region := 2 }).call (.deviceToken cid ch mac)) := by
  refine ⟨(dauth_set_host s a b hne).1, ?_, ?_⟩
  · by_cases hv : s.version < 1800 <;> simp [hdrOf, Dauth.call, Dauth.challengeReq, Dauth.headers, hv, hne]
  · simp [formOf, Dauth.call, Dauth.challengeReq, Dauth.tokenForm, sv]

/-- aauth: `set_host`, `set_power_state` -/
theorem aauth_setters_effect (s : Aauth) (a b : String) (hne : a ≠ b) (t v : Nat) (tok : String) :
    hostsOf (({ s with host := a }).call (.challenge tok)) ≠ hostsOf (({ s with host := b }).call (.challenge tok)) ∧
    hdrOf "X-Nintendo-PowerState" (({ s with powerState := a }).call (.authSystem t v tok)) ≠
      hdrOf "X-Nintendo-PowerState" (({ s with powerState := b }).call (.authSystem t v tok)) := by
  constructor
  · simp [hostsOf, Aauth.call, hne]
  · by_cases hv : s.version < 1800 <;> simp [hdrOf, Aauth.call, Aauth.headers, hv, hne]

/-- baas: `set_host`, `set_power_state` (on a client whose user-agent template formats) -/
theorem baas_setters_effect (s : Baas) (u : String) (hu : fmtS s.ua "nnAccount" = .ok u) (a b : String) (hne : a ≠ b) (tok : String) :
    hostsOf (({ s with host := a }).call (.authenticate tok none)) ≠ hostsOf (({ s with host := b }).call (.authenticate tok none)) ∧
    hdrOf "X-Nintendo-PowerState" (({ s with powerState := a }).call (.authenticate tok none)) ≠
    hdrOf "X-Nintendo-PowerState" (({ s with powerState := b }).call (.authenticate tok none)) := by
  constructor <;>
    simp [hostsOf, hdrOf, Baas.call, Baas.plan, Baas.send, Baas.headers, BaasPlan.hasJson, hu, bind, Except.bind, pure, Except.pure, truthy, moduleAccount, moduleFriends, hne]

/-- five, dragons (on a client with a nim user agent, i.e. constructed with a device id), sun, atumn: `set_host` / `set_hosts` -/
theorem five_dragons_sun_atumn_host_effect (T : Tables) (f : Five) (d : Dragons) (ua : String) (hd : d.uaNim = some ua) (n : Nim)
    (a b : String) (hne : a ≠ b) (tok cid : String) (uid : Nat) :
    hostsOf (Five.call T { f with host := a } (.getInbox tok uid)) ≠ hostsOf (Five.call T { f with host := b } (.getInbox tok uid)) ∧
    hostsOf (({ d with hostDragons := a }).call (.publishDeviceLinkedElicenses tok)) ≠ hostsOf (({ d with hostDragons := b }).call (.publishDeviceLinkedElicenses tok)) ∧
    hostsOf (({ n with host := a }).sunCall .systemUpdateMeta) ≠ hostsOf (({ n with host := b }).sunCall .systemUpdateMeta) ∧
    hostsOf (({ n with host := a }).atumnCall (.downloadContent cid)) ≠ hostsOf (({ n with host := b }).atumnCall (.downloadContent cid)) := by
  refine ⟨?_, ?_, ?_, ?_⟩
  · simp [hostsOf, Five.call, hne]
  · simp [hostsOf, Dragons.call, Dragons.send, hd, hne]
  · simp [hostsOf, Nim.sunCall, hne]
  · simp [hostsOf, Nim.atumnCall, hne]
/- `set_system_version` of the seven Switch clients: `Nx.C18.set_version_atomic` / `values_are_that_versions_*`. -/

/-- nnas: each of the ten setters changes the url or a header of `login` for the two listed values -/
theorem nnas_setters_take_effect : nnasWitness.all (fun p => nnasObs (Nnas.apply {} p.1) != nnasObs (Nnas.apply {} p.2)) = true := by decide +kernel

/-- nasc: each of the ten setters changes the url, a header or a form field of `login` (with `set_sdk_version`
    modelled as repaired — D7) -/
theorem nasc_setters_take_effect : nascWitness.all (fun p => nascObs (nascBase.apply p.1) != nascObs (nascBase.apply p.2)) = true := by decide +kernel

/-! ### … for every value, not only for the two witnesses

The witnesses above show *that* a setter has an effect.  The statements below say *where* the arguments go and hold for
all values of the arguments — 0, the empty string and the largest value of the field are not special — and for every
public call, and after any later setter of another attribute group.  The check asks the real client the same question
for the boundary values of every parameter (harness/api_boundary.py). -/

/-- nnas: after `set_x(args)` every prepared request carries `args` in the documented headers -/
theorem nnas_setter_argument_carried (s : Nnas) (st : NnasSet) (auth cert : Option String) :
    ∀ f ∈ st.fields, f ∈ (s.apply st).prepare auth cert :=
  nnas_setter_carried s st auth cert

/-- … `login` additionally carries the device certificate -/
theorem nnas_login_argument_carried (s : Nnas) (st : NnasSet) (u p : String) (t : Option String) :
    ∀ f ∈ st.fields ++ st.loginFields, f ∈ ((s.apply st).login u p t).2.headers := by
  intro f hf
  rcases List.mem_append.mp hf with h | h
  · exact nnas_setter_carried s st none _ f h
  · cases st <;> simp [NnasSet.loginFields] at h
    rename_i id serial sv c
    cases c <;> simp at h
    subst h
    simp only [Nnas.login, Nnas.apply, Nnas.prepare, List.mem_cons, List.mem_append, true_or, or_true]

/-- … and a later setter of another group leaves it in place -/
theorem nnas_setter_argument_persists (s : Nnas) (st st' : NnasSet) (h : st.kind ≠ st'.kind) (auth cert : Option String) :
    ∀ f ∈ st.fields, f ∈ ((s.apply st).apply st').prepare auth cert := by
  rw [nnas_apply_apply, if_neg h]
  exact nnas_setter_carried _ st auth cert

/-- setter sequences on one object: a later call of the same setter replaces everything the earlier call configured — an
    optional argument given earlier and omitted later is the default again (`cert := none`), nothing stale survives.
    (harness/c20_optseq.py asks the real client this for every spelling of the two calls.) -/
theorem nnas_setter_last_call_wins (s : Nnas) (st st' : NnasSet) (h : st.kind = st'.kind) :
    (s.apply st).apply st' = s.apply st' :=
  nnas_last_call_wins s st st' h

example : ((({} : Nnas).apply (.device 1 "SER1" 0x260 (some "certA"))).apply (.device 2 "SER2" 0x270 none)).deviceCert = none := rfl

/-- the same for nasc (`set_title` may refuse: the statement is about the accepted first call) -/
theorem nasc_setter_last_call_wins (s s₁ : Nasc) (st st' : NascSet) (h : st.kind = st'.kind) (h₁ : s.apply st = .ok s₁) :
    s₁.apply st' = s.apply st' :=
  nasc_last_call_wins s s₁ st st' h h₁

example : ∃ s₁, ({ bssId := "aabbcc" } : Nasc).apply (.title 0x0004000000030800 1 "AAAA" "07" 2 (some "romA")) = .ok s₁ ∧
    (s₁.apply (.title 0x0004000000030900 2 "----" "00" 0 none)).toOption.map (·.romId) = some none := ⟨_, rfl, rfl⟩

/-- a REJECTED setter call (the exception caught) leaves the client as it was: from any history of setter calls on one client the
    rejected calls can be deleted without changing the client — hence every later request is the request of a client that never saw
    them. (`Nasc.apply` is `Except`-valued, so "no partial write" is how the model is built; the statement is the specification the
    real client is held to by harness/c20_reject.py, which finds the rejected values itself. Switch clients: `Nx.C18.set_version_atomic`.) -/
theorem nasc_rejected_setter_changes_nothing (s : Nasc) (l : List NascSet) :
    l.foldl Nasc.applyCaught s = (l.filter fun st => !st.refused).foldl Nasc.applyCaught s :=
  nasc_history_without_rejected s l

/-- the refused calls are exactly the ones `apply` raises on, whatever the client's state -/
theorem nasc_rejected_iff_refused (s : Nasc) (st : NascSet) : (∃ e, s.apply st = .error e) ↔ st.refused = true :=
  nasc_refused_iff s st

example : ([NascSet.title 0x0004000000030800 1 "AAAA" "07" 1 (some "romA"), .title 0x0004000000030900 2 "AMKE" "01" 2 none].foldl
    Nasc.applyCaught ({ bssId := "aabbcc" } : Nasc)).titleId = some 0x0004000000030800 := rfl
example : (NascSet.title 0x0004000000030900 2 "AMKE" "01" 2 none).refused = true ∧
    (NascSet.title 0x0004000000030900 2 "AMKE" "01" 2 (some "r")).refused = false := ⟨rfl, rfl⟩

/-- the optional headers are absent from every request of a client on which no setter was ever called -/
theorem nnas_optional_headers_omitted_by_default (auth cert : Option String) :
    ∀ p ∈ ({} : Nnas).prepare auth cert, p.1 ∉ nnasOptionalHeaders :=
  nnas_optional_omitted auth cert

/-- hence `set_title` with *any* arguments is observable against the never-configured client: the prepared headers differ -/
theorem nnas_title_observable (id v : Nat) (auth cert : Option String) :
    (({} : Nnas).apply (.title id v)).prepare auth cert ≠ ({} : Nnas).prepare auth cert := by
  intro h
  have h1 := nnas_setter_carried {} (.title id v) auth cert ("X-Nintendo-Application-Version", hexU 4 v) (by simp [NnasSet.fields])
  rw [h] at h1
  exact nnas_optional_omitted auth cert _ h1 (by simp [nnasOptionalHeaders])

/-- … and so is `set_device` with any arguments -/
theorem nnas_device_observable (id sv : Nat) (serial : String) (c auth cert : Option String) :
    (({} : Nnas).apply (.device id serial sv c)).prepare auth cert ≠ ({} : Nnas).prepare auth cert := by
  intro h
  have h1 := nnas_setter_carried {} (.device id serial sv c) auth cert ("X-Nintendo-Device-ID", dec id) (by simp [NnasSet.fields])
  rw [h] at h1
  exact nnas_optional_omitted auth cert _ h1 (by simp [nnasOptionalHeaders])

/-- every public nnas call sends exactly the prepared headers -/
theorem nnas_every_call_prepares (s : Nnas) (tok cid : String) (g : Nat) (pids : List Nat) (nnids : List String) :
    (s.getNexToken tok g).2.headers = s.prepare (some tok) none ∧ (s.getServiceToken tok cid).2.headers = s.prepare (some tok) none ∧
    (s.getProfile tok).2.headers = s.prepare (some tok) none ∧ (s.getMiis pids).2.headers = s.prepare none none ∧
    (s.getPids nnids).2.headers = s.prepare none none ∧ (s.getNnids pids).2.headers = s.prepare none none :=
  ⟨rfl, rfl, rfl, rfl, rfl, rfl⟩

/-- nasc: after a setter that accepted its arguments, the `LOGIN` form and headers carry them in the documented fields -/
theorem nasc_setter_argument_carried (s s' : Nasc) (st : NascSet) (h : s.apply st = .ok s') (g : Nat) (nick dt : String)
    (F : List (String × RawV)) (hF : s'.form g nick dt = some F) :
    (∀ f ∈ st.fields, f ∈ F) ∧ (∀ f ∈ st.hdrFields, f ∈ s'.loginHeaders g) :=
  ⟨nasc_setter_carried s s' st h g nick dt F hF, nasc_setter_hdr_carried s s' st h g⟩

-- the hypotheses are satisfiable at the boundary values the statement is about
example : ("X-Nintendo-Application-Version", "0000") ∈ (({} : Nnas).apply (.title 0 0)).prepare none none := by decide +kernel
example : ("X-Nintendo-Device-ID", "0") ∈ (({} : Nnas).apply (.device 0 "" 0 (some ""))).prepare none none := by decide +kernel
example : (nascBase.apply (.user 0 "")).map (fun s => (s.form 0 "" "").map fun F => decide (("userid", RawV.s "0") ∈ F)) = .ok (some true) := by decide +kernel

/-- hpp: `HppClient.host()` spells the environment (lower-cased) into the host name -/
theorem hpp_environment_takes_effect :
    Hpp.host { gameServerId := 0x1234, environment := "L1" } ≠ Hpp.host { gameServerId := 0x1234, environment := "D1" } := by
  decide

/- NOT a Lean theorem (no model of object identity / TLS): `set_context`, `set_certificate`, `set_request_callback` and
   "every call hands the configured host, context and callback through" are checked on the real code only (every public
   call of every client, in harness/corr_C20.py); constructing every documented class likewise. -/

/-! ## the `nex.*` settings at the RMC layer, under every negotiated connection parameter

`RMCClient` encodes with its own copy of the caller's settings, adjusted to the connection (`rmcSettings`, rmc.py:126-131).  The statements
say that this layer never takes a setting away from the caller: `nex.struct_header = 1` enables the headers on **every** connection (any
kind, any minor version), the two values of the setting give different `login_ex` request bodies on every connection with a negotiated minor
version below 3 (all of prudp v0 — the shipped 3ds.cfg / friends.cfg —, v1 / lite with minor version 0..2), and `nex.pid_size`,
`nex.version`, `nex.client_version` pass through untouched on every connection.  From minor version 3 on the headers are on whatever the
setting says (the code's rule, mirrored; the check compares it on every configuration).  Tie: harness/api_wire.py (real `RMCClient`s
over the simulated PRUDP connection, bodies captured at a raw endpoint, driver op `wire`). -/

open Nx.Api.Wire in
/-- `nex.struct_header = 1` is honoured on every connection -/
theorem struct_header_enabled_on_every_connection (k : Kind) (cmin smin : Nat) (c : NexCfg) (h : c.structHeader = true) :
    (rmcSettings (negotiatedMinor k cmin smin) c).structHeader = true :=
  rmcSettings_header_kept _ c h

open Nx.Api.Wire in
/-- below minor version 3 the connection encodes with exactly the caller's settings; prudp v0 always is below -/
theorem rmc_uses_callers_settings_below_minor_3 (k : Kind) (cmin smin : Nat) (c : NexCfg) (h : negotiatedMinor k cmin smin < 3) :
    rmcSettings (negotiatedMinor k cmin smin) c = c ∧ rmcSettings (negotiatedMinor .v0 cmin smin) c = c :=
  ⟨rmcSettings_below _ c h, rmcSettings_below _ c (by rw [negotiatedMinor_v0]; omega)⟩

open Nx.Api.Wire in
/-- `nex.struct_header` takes effect on the wire of every connection with a negotiated minor version below 3: the `login_ex` request
    bodies for the two values differ (by the 2 x 5 header bytes of `AuthenticationInfo(Data)`), for every user name and token -/
theorem struct_header_takes_effect_on_the_wire (m : Nat) (hm : m < 3) (c : NexCfg) (user token : String) {x y : Bytes}
    (hx : reqLoginEx (rmcSettings m { c with structHeader := false }) user token = .ok x)
    (hy : reqLoginEx (rmcSettings m { c with structHeader := true }) user token = .ok y) : y.length = x.length + 10 ∧ x ≠ y := by
  rw [rmcSettings_below m _ hm] at hx hy
  exact ⟨reqLoginEx_header_len c user token hx hy, reqLoginEx_header_ne c user token hx hy⟩

open Nx.Api.Wire in
/-- from minor version 3 on the headers are on for both values (mirrors rmc.py:130-131) -/
theorem struct_header_forced_from_minor_3 (m : Nat) (hm : 3 ≤ m) (c : NexCfg) :
    rmcSettings m { c with structHeader := false } = rmcSettings m { c with structHeader := true } := by
  rw [rmcSettings_from3 m _ hm, rmcSettings_from3 m _ hm]

open Nx.Api.Wire in
/-- `nex.pid_size`, `nex.version`, `nex.client_version` pass through the RMC layer on every connection … -/
theorem rmc_keeps_pid_size_version_client_version (m : Nat) (c : NexCfg) :
    (rmcSettings m c).pidSize = c.pidSize ∧ (rmcSettings m c).version = c.version ∧ (rmcSettings m c).clientVersion = c.clientVersion :=
  rmcSettings_others m c

open Nx.Api.Wire in
/-- … so `request_ticket(source, target)` carries 2 x `nex.pid_size` bytes whatever the connection -/
theorem pid_size_on_the_wire (m : Nat) (c : NexCfg) (a b : Nat) {x : Bytes} (h : reqTicket (rmcSettings m c) a b = .ok x) :
    x.length = if c.pidSize = 8 then 16 else 8 := by
  have := reqTicket_len (rmcSettings m c) a b h
  rwa [(rmcSettings_others m c).1] at this

open Nx.Api.Wire in
/-- `nex.version` on the wire: with headers `RVConnectionData` grows by the 8-byte server time at 3.5.0; without headers it does not show -/
theorem nex_version_on_the_wire (c : NexCfg) (lo hi : Nat) (hlo : lo < 30500) (hhi : 30500 ≤ hi) (main special : String)
    (protocols : List Nat) (time : Nat) :
    (∀ x y, wConnData { c with structHeader := true, version := lo } main special protocols time = .ok x →
            wConnData { c with structHeader := true, version := hi } main special protocols time = .ok y → y.length = x.length + 8) ∧
    wConnData { c with structHeader := false, version := lo } main special protocols time =
      wConnData { c with structHeader := false, version := hi } main special protocols time :=
  ⟨fun _ _ hx hy => wConnData_version_len c lo hi hlo hhi main special protocols time hx hy,
   wConnData_version_without_header c lo hi main special protocols time⟩

open Nx.Api.Wire in
/-- which login method `BackEndClient.login` sends follows `nex.version` -/
theorem backend_login_method_follows_version (c : NexCfg) (user token : String) :
    (reqBackendLogin c user token).1 = if c.version < 40400 then 2 else 6 :=
  reqBackendLogin_method c user token

-- the hypotheses are satisfiable: a v0 connection, headers requested, both encodings exist and differ
open Nx.Api.Wire in
example : (reqLoginEx (rmcSettings (negotiatedMinor .v0 4 4) ⟨false, 4, 30400, 0⟩) "u" "t").toOption.map List.length = some 46 ∧
          (reqLoginEx (rmcSettings (negotiatedMinor .v0 4 4) ⟨true, 4, 30400, 0⟩) "u" "t").toOption.map List.length = some 56 ∧
          (reqLoginEx (rmcSettings (negotiatedMinor .v1 4 5) ⟨false, 4, 30400, 0⟩) "u" "t").toOption.map List.length = some 56 := by decide +kernel
open Nx.Api.Wire in
example : (reqTicket (rmcSettings 5 ⟨true, 8, 40000, 0⟩) 1 2).toOption.map List.length = some 16 := by decide +kernel
open Nx.Api.Wire in
example : (reqBackendLogin ⟨true, 8, 40400, 9⟩ "u" "t").1 = 6 ∧ (reqBackendLogin ⟨true, 8, 40300, 9⟩ "u" "t").1 = 2 := by decide +kernel

end Nx.C20
