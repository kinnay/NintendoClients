import NxProofs.Cipher
import NxProofs.Refine
import NxProofs.RefineSend
import NxProofs.Sys
import NxProofs.Duplex
import NxProofs.HandshakeServer
import NxProofs.HandshakeClient
import NxProofs.HandshakeAcks
import NxProofs.Liveness
import NxProofs.Unreliable
import NxProps.C04
/-!
# C01 — PRUDP reliable channel: in-order, exactly-once, uncorrupted delivery

Model: `NxModel/Prudp/Channel.lean` (L2: one direction, one substream; `Window`, `split`, `Reasm`,
position-indexed `Cipher`, monotone sender `log`, adversarial network = any list of `arrive j`).
The network may drop (never choose `j`), duplicate (choose it twice), delay and reorder (any order).

Hypotheses of the L2 theorems, each explicit and satisfiable (examples under `### non-vacuity`):
* `CipherOk c`   — decode∘encode = id at equal positions, non-empty stays non-empty (holds for RC4 = xor
                   with a key stream, and for no cipher; zlib enters only through `decompress∘compress = id`);
* `1 ≤ size`     — fragment size;
* `start < 65536`;
* `runOk`        — H-window: every arriving copy is within 2^15 packets of the receiver's release point
                   (16-bit ids cannot survive more: `half_window_needed` below; DESIGN §6 D12).

Built into the model, and a hypothesis of no statement: one writer at a time per substream — the per-substream send lock (repo
commit 5f9d62f, D11): `Sender.begin` refuses while another `send` of the substream is between its fragments. A `send` itself is
NOT atomic: `Op.begin msg` followed by one `Op.frag` per fragment, and keep-alive pings (same id counter on substream 0, sent by
the timer task without the lock), `disconnect()` and arrivals may fall between any two fragments. `Op.send msg` is the same call
with nothing in between.
-/
namespace Nx.C01
open Nx.Chan

/-- **Safety.** Whatever the network does, what the receiver delivers is a prefix of what was sent:
    nothing lost in the middle, duplicated, reordered, merged, split or altered. -/
theorem C01_safety (c : Cipher) (hc : CipherOk c) (size : Nat) (hsz : 1 ≤ size) (start : Nat) (hs : start < 65536)
    (ops : List Op) (hok : runOk c size (init start) ops = true) :
    (run c size (init start) ops).r.core.reasm.out <+: (run c size (init start) ops).s.sent := by
  obtain ⟨hS, hR⟩ := inv_reach c hc size hsz start hs ops hok
  exact delivered_prefix_sent c start _ hS hR

/-- **Completeness.** Once every packet of the log has been released and no `send` is in the middle of its fragments,
    exactly the sent messages have been delivered, no partial message is pending and the cipher positions agree —
    while the connection is open, and also after a `disconnect()` that was issued while no `send` was in progress. -/
theorem C01_complete (c : Cipher) (hc : CipherOk c) (size : Nat) (hsz : 1 ≤ size) (start : Nat) (hs : start < 65536)
    (ops : List Op) (hok : runOk c size (init start) ops = true)
    (hall : (run c size (init start) ops).r.nrel = (run c size (init start) ops).s.log.length)
    (hidle : (run c size (init start) ops).s.pending = [])
    (hclean : (run c size (init start) ops).s.closing = false ∨ (run c size (init start) ops).s.clean = true) :
    (run c size (init start) ops).r.core.reasm.out = (run c size (init start) ops).s.sent ∧
    (run c size (init start) ops).r.core.reasm.buf = [] ∧
    (run c size (init start) ops).r.core.decPos = (run c size (init start) ops).s.encPos := by
  obtain ⟨hS, hR⟩ := inv_reach c hc size hsz start hs ops hok
  rw [complete_of_inv hS hR hall hidle hclean]; exact ⟨rfl, rfl, rfl⟩

/-- **Completeness, with a `send` in the middle of its fragments.** While the connection is open and everything emitted so far
    has been released, releasing the fragments the `send` in progress still has to emit — whatever ids they get, i.e. whatever
    pings fall in between — completes exactly the sent messages. -/
theorem C01_complete_in_progress (c : Cipher) (hc : CipherOk c) (size : Nat) (hsz : 1 ≤ size) (start : Nat) (hs : start < 65536)
    (ops : List Op) (hok : runOk c size (init start) ops = true)
    (hall : (run c size (init start) ops).r.nrel = (run c size (init start) ops).s.log.length)
    (hopen : (run c size (init start) ops).s.closing = false) (id : Nat) :
    ((run c size (init start) ops).r.core.consume c
        (wiresOf c id (run c size (init start) ops).s.encPos (run c size (init start) ops).s.pending)).reasm =
      ⟨[], (run c size (init start) ops).s.sent⟩ := by
  obtain ⟨hS, hR⟩ := inv_reach c hc size hsz start hs ops hok
  have h := hR.core
  rw [hall, List.take_length] at h
  have hl := hS.live hopen
  rw [consume_append, ← h, consume_wiresOf_id c _ _ id] at hl
  rw [hl]

/-- **Progress.** While the receiver is open, an arrival of the packet it is waiting for is always released
    (so delivering each outstanding packet once — by retransmission, C02 — reaches `C01_complete`). -/
theorem C01_progress (c : Cipher) (hc : CipherOk c) (size : Nat) (hsz : 1 ≤ size) (start : Nat) (hs : start < 65536)
    (ops : List Op) (hok : runOk c size (init start) ops = true)
    (hopen : (run c size (init start) ops).r.core.closed = false)
    (w : Wire) (hw : (run c size (init start) ops).s.log[(run c size (init start) ops).r.nrel]? = some w) :
    (run c size (init start) ops).r.nrel < ((run c size (init start) ops).r.arrive c w).nrel := by
  obtain ⟨hS, hR⟩ := inv_reach c hc size hsz start hs ops hok
  generalize run c size (init start) ops = ch at *
  have hne := update_next_progress ch.s.log start ch.r.win ch.r.nrel w (hR.win hopen)
  rw [← hS.id_eq hw] at hne
  rw [(Receiver.arrive_open c ch.r w hopen rfl).2.1]
  exact Nat.lt_add_of_pos_right (List.length_pos_iff.mpr hne)

/-- **Liveness, the receiver's half.** In a run within the half-window hypothesis, if every packet of the final log has
    arrived at least once while the receiver was open — in any order, with any duplicates, interleaved with further sends,
    pings and fragments — then the sliding window has released the whole log. (That at least one copy of every packet arrives
    is what "faults within the retransmission budget" gives: each packet is re-sent until acknowledged, C02 `resend_chain`.) -/
theorem C01_all_arrived_all_released (c : Cipher) (hc : CipherOk c) (size : Nat) (hsz : 1 ≤ size) (start : Nat) (hs : start < 65536)
    (ops : List Op) (hok : runOk c size (init start) ops = true)
    (hopen : (run c size (init start) ops).r.core.closed = false)
    (hall : ∀ j, j < (run c size (init start) ops).s.log.length → j ∈ arrived c size (init start) ops) :
    (run c size (init start) ops).r.nrel = (run c size (init start) ops).s.log.length :=
  all_arrived_all_released c hc size hsz start hs ops hok hopen hall

/-- **Liveness.** While the receiver is open (no DISCONNECT released), no `send` is between its fragments and the sender has
    issued no `disconnect()`, or one issued while no `send` was in progress: once every emitted packet has arrived at least once,
    every message passed to `send` has been delivered, exactly once and in order, nothing partial is pending and the cipher
    positions agree. -/
theorem C01_liveness (c : Cipher) (hc : CipherOk c) (size : Nat) (hsz : 1 ≤ size) (start : Nat) (hs : start < 65536)
    (ops : List Op) (hok : runOk c size (init start) ops = true)
    (hopen : (run c size (init start) ops).r.core.closed = false)
    (hall : ∀ j, j < (run c size (init start) ops).s.log.length → j ∈ arrived c size (init start) ops)
    (hidle : (run c size (init start) ops).s.pending = [])
    (hclean : (run c size (init start) ops).s.closing = false ∨ (run c size (init start) ops).s.clean = true) :
    (run c size (init start) ops).r.core.reasm.out = (run c size (init start) ops).s.sent ∧
    (run c size (init start) ops).r.core.reasm.buf = [] ∧
    (run c size (init start) ops).r.core.decPos = (run c size (init start) ops).s.encPos :=
  C01_complete c hc size hsz start hs ops hok (all_arrived_all_released c hc size hsz start hs ops hok hopen hall) hidle hclean

/-- **Graceful close is in order.** If the receiver has reached end-of-stream through the sender's DISCONNECT, and
    `disconnect()` was called while no `send` was between its fragments, then every message ever passed to `send` was delivered
    before the end-of-stream and nothing partial is left: `recv` returns all of them, then raises. -/
theorem C01_closed_after_everything (c : Cipher) (hc : CipherOk c) (size : Nat) (hsz : 1 ≤ size) (start : Nat) (hs : start < 65536)
    (ops : List Op) (hok : runOk c size (init start) ops = true)
    (hcl : (run c size (init start) ops).r.core.closed = true) (hclean : (run c size (init start) ops).s.clean = true) :
    (run c size (init start) ops).s.closing = true ∧
    (run c size (init start) ops).r.core.reasm.out = (run c size (init start) ops).s.sent ∧
    (run c size (init start) ops).r.core.reasm.buf = [] := by
  obtain ⟨hS, hR⟩ := inv_reach c hc size hsz start hs ops hok
  exact closed_after_everything c start _ hS hR hcl hclean

/-- the one-step `send` of the model is `begin` followed by one `frag` per fragment: the fragment-granular operations
    describe the same call, they only allow other things to happen in between -/
theorem send_is_begin_then_frags (c : Cipher) (size : Nat) (s : Sender) (m : Bytes) (hcl : s.closing = false) (hp : s.pending = []) :
    s.send c size m = fragN c (split size m).length (s.begin size m) := send_eq_begin_frags c size s m hcl hp

/-- fragmentation: a non-empty message reassembles to exactly itself — for every size ≥ 1 and every length,
    exact multiples of the fragment size included -/
theorem frag_roundtrip (size : Nat) (hs : 1 ≤ size) (m : Bytes) (hm : m ≠ []) (out : List Bytes) :
    absorbFrags ⟨[], out⟩ (split size m) = ⟨[], out ++ [m]⟩ := by
  rw [split_absorb size hs m out, if_neg (by simpa using hm)]

/-- the window releases the log in order, exactly once (the core of exactly-once delivery) -/
theorem window_release_in_order {α : Type} (L : List α) (start : Nat) (w : Window α) (r i : Nat) (p : α)
    (hinv : SInv L start w r) (hp : L[i]? = some p) (h1 : r < i + 32768) (h2 : i < r + 32768) :
    ∃ r', r ≤ r' ∧ SInv L start (w.update (idOf start i) p).1 r' ∧
      (w.update (idOf start i) p).2 = (L.drop r).take (r' - r) :=
  let ⟨r', hr', hS, hrel, _⟩ := update_spec L start w r i p hinv hp h1 h2; ⟨r', hr', hS, hrel⟩

/-- RC4 (xor with a running key stream) meets the cipher hypothesis, for every key stream -/
theorem rc4_like_ok (ks : Nat → UInt8) : CipherOk (xorCipher ks) := xorCipher_ok ks

/-- the cipher hypothesis read for an unreliable payload (the per-packet key at position 0 on both sides); the statement about what
    `send_unreliable` emits on the endpoint model is `unreliable_delivered_is_what_was_sent` -/
theorem unreliable_roundtrip (c : Cipher) (hc : CipherOk c) (pos : Nat) (x : Bytes) : c.dec pos (c.enc pos x) = x :=
  hc.dec_enc pos x

open Nx.L1 Nx.Prudp in
/-- **unreliable data on the endpoint model**: every packet `send_unreliable(data)` hands to the transport is a DATA packet
    without the RELIABLE flag that decodes — at any endpoint holding the same unreliable base key and cipher setting, in any
    state, after any other traffic — to exactly `data`, and decoding it leaves that endpoint as it was -/
theorem unreliable_delivered_is_what_was_sent (env : Env) (hl : EnvLaws env)
    (now : Time) (a b : Conn) (data : Bytes) (hk : b.unrelKey = a.unrelKey) (hon : b.cipherOn = a.cipherOn) :
    ∀ q ∈ emitted (a.sendUnreliable env now data),
      q.type = TYPE_DATA ∧ hasReliable q.flags = false ∧ b.decodePayload env q = .ok (data, b) :=
  unreliable_end_to_end env hl now a b data hk hon

/-! non-vacuity of `unreliable_delivered_is_what_was_sent`: a connected endpoint does emit a packet for `send_unreliable`
    (stream transport = no cipher; the theorem holds for every key) -/
open Nx.L1 Nx.Prudp in
example :
    let env : Env := { C04.toyEnv with s := { transport := TRANSPORT_TCP } }
    let a := { Conn.new env (some 1) 1 2 3 ("10.0.0.2", 1) 15 10 ("10.0.0.1", 2) 1 10 with state := STATE_CONNECTED }
    (emitted (a.sendUnreliable env 0 [7, 8, 9])).map (·.payload) = [[7, 8, 9]] := by decide +kernel

/-- H-window cannot be dropped: a stale copy delayed by more than half the id space is accepted as a
    future packet (protocol-inherent, 16-bit ids). -/
theorem half_window_needed :
    (Window.update (α := Nat) { next := 40000, packets := [] } 5 777).1.packets = [(5, 777)] := by decide

/-! ### non-vacuity -/

/-- a run with reordering, duplication and loss that satisfies every hypothesis and delivers a proper prefix -/
example :
    let ops := [Op.send [1, 2, 3, 4, 5], .send [9], .arrive 2, .arrive 2, .arrive 0, .arrive 1, .arrive 0]
    runOk idCipher 2 (init 65535) ops = true ∧
      (run idCipher 2 (init 65535) ops).r.core.reasm.out = [[1, 2, 3, 4, 5]] ∧
      (run idCipher 2 (init 65535) ops).s.sent = [[1, 2, 3, 4, 5], [9]] := by decide +kernel

example : CipherOk idCipher := idCipher_ok

/-- a keep-alive ping between the fragments of a message (and a duplicate of it, and reordering): the message arrives whole -/
example :
    let ops := [Op.begin [1, 2, 3, 4, 5], .frag, .ping, .frag, .arrive 2, .frag, .arrive 1, .arrive 1, .arrive 3, .arrive 0]
    runOk idCipher 2 (init 7) ops = true ∧
      (run idCipher 2 (init 7) ops).s.log.map (·.kind) = [.data 1, .ping, .data 2, .data 0] ∧
      (run idCipher 2 (init 7) ops).r.core.reasm.out = [[1, 2, 3, 4, 5]] ∧
      (run idCipher 2 (init 7) ops).s.sent = [[1, 2, 3, 4, 5]] ∧ (run idCipher 2 (init 7) ops).s.pending = [] := by decide +kernel

/-- the hypotheses of `C01_liveness` are met by a run in which the first copy of a packet is lost (never arrives), later
    packets arrive before its retransmission, a duplicate arrives late, and a ping falls inside the second message -/
example :
    let ops := [Op.send [1, 2, 3], .arrive 1, .begin [4, 5, 6], .frag, .ping, .arrive 3, .arrive 2, .frag, .arrive 0, .arrive 4, .arrive 1]
    runOk idCipher 2 (init 65534) ops = true ∧ (run idCipher 2 (init 65534) ops).r.core.closed = false ∧
      (∀ j, j < (run idCipher 2 (init 65534) ops).s.log.length → j ∈ arrived idCipher 2 (init 65534) ops) ∧
      (run idCipher 2 (init 65534) ops).s.pending = [] ∧ (run idCipher 2 (init 65534) ops).s.closing = false ∧
      (run idCipher 2 (init 65534) ops).r.core.reasm.out = [[1, 2, 3], [4, 5, 6]] := by decide +kernel

/-- the hypotheses of `C01_closed_after_everything` are met: two messages, a graceful disconnect, reordering -/
example :
    let ops := [Op.send [1, 2, 3], .send [4], .disconnect, .ping, .arrive 3, .arrive 2, .arrive 0, .arrive 1]
    runOk idCipher 2 (init 9) ops = true ∧ (run idCipher 2 (init 9) ops).r.core.closed = true ∧
      (run idCipher 2 (init 9) ops).s.clean = true ∧ (run idCipher 2 (init 9) ops).r.core.reasm.out = [[1, 2, 3], [4]] := by decide +kernel

/-- a `send` that is still between its fragments: the hypotheses of `C01_complete_in_progress` are met -/
example :
    let ops := [Op.begin [1, 2, 3, 4, 5], .frag, .ping, .arrive 0, .arrive 1]
    runOk idCipher 2 (init 7) ops = true ∧ (run idCipher 2 (init 7) ops).r.nrel = (run idCipher 2 (init 7) ops).s.log.length ∧
      (run idCipher 2 (init 7) ops).s.closing = false ∧ (run idCipher 2 (init 7) ops).s.pending.length = 2 ∧
      (run idCipher 2 (init 7) ops).r.core.reasm = ⟨[1, 2], []⟩ := by decide +kernel

/-! ### one L1 endpoint refines one half of the L2 channel

The endpoint model that reproduces real sessions byte for byte (`NxModel/Prudp/Conn.lean`) calls the channel's own `Window.update`,
`seqNext` and `split`; these theorems relate the rest of its receive and send paths to `Receiver.arrive` and `Sender.send`.
The network between two endpoints (which copies of which wires arrive when) is the L2 adversary; that the real network layer hands
the emitted bytes to the peer's `handle` is what the correspondence runs tie. -/

open Nx.L1 Nx.Prudp in
/-- `SlidingWindow.update` does not look at what it stores: it commutes with any map of the stored values (`wireOf` in the refinement) -/
theorem window_update_natural {α β : Type} (f : α → β) (w : Window α) (id : Nat) (p : α) :
    (w.map f).update id (f p) = ((w.update id p).1.map f, (w.update id p).2.map f) := update_map f w id p

open Nx.L1 Nx.Prudp in
/-- **L1 → L2, the release loop of `process_reliable`**: `Conn.consume` is `Core.consume` on the projected packets under the
    abstraction `RRel` (EOF flag = closed, queue = delivered messages, fragment buffer, decryption position). Hypotheses: the
    substream's lists exist (`SubWF`), the packets are reliable ones of the substream, `decompress ∘ compress = id` (the zlib
    framing is C08's), and what is consumed is well-encoded for the receiver's position (`Core.wellAt`; in every reachable state
    of the channel what the window releases is: `released_well`) -/
theorem l1_release_loop_refines_l2 (env : Env) (hround : ∀ b, env.decompress (env.compress b) = .ok b) (sub : Nat) (ci : Cipher)
    (rel : List Packet) (c : Conn) (core : Core) (hw : SubWF c sub) (hc : cipherOf c sub = ci)
    (hgood : ∀ q ∈ rel, q.substreamId = sub ∧ hasReliable q.flags = true)
    (hwell : Core.wellAt (wrap env ci) core (rel.map wireOf)) (hr : RRel c sub core) :
    RRel (Conn.consume env sub rel c).c sub (core.consume (wrap env ci) (rel.map wireOf)) ∧
    SubWF (Conn.consume env sub rel c).c sub ∧ cipherOf (Conn.consume env sub rel c).c sub = ci :=
  consume_refines env hround sub ci rel c core hw hc hgood hwell hr

open Nx.L1 Nx.Prudp in
/-- **L1 → L2, `process_reliable` is `Receiver.arrive`** on the projected window and packet, under `RRel`; the window keeps holding
    reliable packets of the substream (`GoodWin`) -/
theorem l1_process_reliable_refines_l2 (env : Env) (sub : Nat) (c : Conn) (w : Window Packet)
    (core : Core) (nrel : Nat) (p : Packet) (hw : SubWF c sub) (hwl : sub < c.windows.length) (hwin : c.windows[sub]? = some w)
    (hgw : GoodWin sub w) (hp : p.substreamId = sub ∧ hasReliable p.flags = true) (hr : RRel c sub core) (hlive : c.eof = false)
    (hround : ∀ b, env.decompress (env.compress b) = .ok b)
    (hwell : Core.wellAt (wrap env (cipherOf c sub)) core ((w.update p.packetId p).2.map wireOf)) :
    ∃ w', (c.processReliable env p).c.windows[sub]? = some w' ∧ GoodWin sub w' ∧
      Receiver.arrive (wrap env (cipherOf c sub)) ⟨w.map wireOf, nrel, core⟩ (wireOf p) =
        ⟨w'.map wireOf, nrel + (w.update p.packetId p).2.length, (Receiver.arrive (wrap env (cipherOf c sub)) ⟨w.map wireOf, nrel, core⟩ (wireOf p)).core⟩ ∧
      RRel (c.processReliable env p).c sub (Receiver.arrive (wrap env (cipherOf c sub)) ⟨w.map wireOf, nrel, core⟩ (wireOf p)).core ∧
      SubWF (c.processReliable env p).c sub ∧ cipherOf (c.processReliable env p).c sub = cipherOf c sub :=
  processReliable_refines env sub c w core nrel p hw hwl hwin hgw hp hr hlive hround hwell

open Nx.L1 Nx.Prudp in
/-- **L1 → L2, the send side**: what `send(data, substream)` hands to the transport projects (`wireOf`) to a prefix of exactly the
    wires `Sender.send` appends to its log for this message — same sequence ids, fragment ids and ciphertext at the same cipher
    positions — and to all of them when no exception occurred and the link is up (an exception or a dead link can only cut the
    emission short) -/
theorem l1_send_refines_l2 (env : Env) (now : Time) (c : Conn) (data : Bytes) (sub n pos : Nat)
    (hs : SRel c sub n pos) :
    (emitted (c.send env now data sub)).map wireOf <+: wiresOf (wrap env (cipherOf c sub)) n pos (split c.fragmentSize data) ∧
    ((c.send env now data sub).err = none → (c.send env now data sub).c.linkUp = true →
      (emitted (c.send env now data sub)).map wireOf = wiresOf (wrap env (cipherOf c sub)) n pos (split c.fragmentSize data) ∧
      SRel (c.send env now data sub).c sub (iterSeq (split c.fragmentSize data).length n)
        (pos + wiresLen (wiresOf (wrap env (cipherOf c sub)) n pos (split c.fragmentSize data)))) :=
  send_refines env now c data sub n pos hs

/-! non-vacuity of the send side: a fresh connection's substream 0 has next id 1 at cipher position 0 -/
open Nx.L1 Nx.Prudp in
example :
    let c := Conn.new C04.toyEnv (some 1) 1 2 3 ("10.0.0.2", 1) 15 10 ("10.0.0.1", 2) 1 10
    SRel c 0 1 0 ∧ (∀ b, C04.toyEnv.compress b = b) :=
  ⟨⟨rfl, ⟨_, rfl, fun _ => rfl⟩⟩, fun _ => rfl⟩

/-! non-vacuity: a fresh connection and the initial L2 core are related, its substream 0 is well-formed, its window is good -/
open Nx.L1 Nx.Prudp in
example :
    let c := Conn.new C04.toyEnv (some 1) 1 2 3 ("10.0.0.2", 1) 15 10 ("10.0.0.1", 2) 1 10
    SubWF c 0 ∧ RRel c 0 core0 ∧ c.eof = false ∧ c.windows[0]? = some { next := 1, packets := [] } ∧
    GoodWin 0 ({ next := 1, packets := [] } : Window Packet) ∧ (∀ b, C04.toyEnv.decompress b = .ok b) := by
  refine ⟨by unfold SubWF; decide +kernel, ⟨rfl, rfl, fun _ => ⟨rfl, fun _ => ⟨_, rfl, rfl⟩⟩⟩, rfl, rfl, ?_, fun _ => rfl⟩
  intro kq h; cases h

/-! ### the two endpoints and the network between them, as one system (`NxProofs/Sys.lean`)

`Sys` = a sending `Conn`, a receiving `Conn`, and `net`: everything the sender ever handed to its transport for the substream.
The steps are the 20 constructors of `SysOp`, each commented at its definition. Three ideas:
* **the network is the adversary.** It hands *any* element of `net` to the receiver, in any order, any number of times (never =
  loss) — straight to `process_reliable` (`deliver`) or through the whole receive path `handle` (`deliverH`: state, signature,
  substream and session gates, the acknowledgement, then `process_reliable`; `handle_reliable_path`) — while the sender `send`s, as one
  step or fragment by fragment (`begin`, then one `frag` per turn of the loop), its timer task sends keep-alive pings (`ping`,
  same id counter on substream 0) and its application calls `disconnect()`.
* **an active attacker** hands either endpoint ANY packet whose signature is not the one that endpoint expects of it (`inject`,
  `aInject`: forged with other keys, altered in flight, of any type and flags); by C04's signature gate it changes nothing. So
  `C01_system_safety` is safety in the presence of an attacker who cannot produce the expected signatures (HMAC assumption, C04).
* **for each direction and substream.** An endpoint is at once the sender of one direction and the receiver of the other, on
  several substreams. The remaining steps are what the two endpoints do that is NOT part of the channel under study: traffic of
  the other direction and of other substreams, keep-alives, acknowledgements of any kind, retransmission timers, the receiver
  endpoint's own `disconnect()`. `NxProofs/Roles.lean`, `SendPath.lean` and `Resend.lean` show each of them to be a frame step for
  the role the channel uses (`SendFr`: counter, key, encryption position, fragment size; `RecvFr`: windows, queues, fragment
  buffers, EOF, link, key, decryption position), so they change nothing in the coupling: the end-to-end theorems hold with
  arbitrary traffic of the other direction and of other substreams interleaved — and, applied with the roles exchanged, for the
  other direction at the same time.

`Good` = the coupling `Cpl` with an L2 channel state + the channel invariants, a well-encoded log (`Core.wellAt`) and `TimersOk`.
Hypotheses of a run (`Sys.runOk`, decidable, checked step by step): a `send` is refused at once (closed connection, invalid
substream) or runs to its end on a live link — an exception out of the transport in the middle of a message is excluded
(it leaves a hole in the id sequence; the application saw the exception); a delivered copy is within half the id space of
the receiver's release point (16-bit ids, `half_window_needed`); step by step: `Sys.opOk`. Of the compression only `EnvLaws` is assumed (`decompress ∘ compress
= id`, non-empty stays non-empty): the identity of the L1 sessions meets it, and so does `markEnv` below. -/

open Nx.L1 Nx.Prudp in
/-- the per-substream cipher of an endpoint (RC4 at a running position / none on stream transports) meets the channel's
    cipher hypothesis for every key: `CipherOk` is not an assumption about the endpoints -/
theorem endpoint_cipher_ok (c : Conn) (sub : Nat) : CipherOk (cipherOf c sub) := cipherOf_ok c sub

open Nx.L1 Nx.Prudp in
/-- **every run of the two-endpoint system is a run of the L2 channel** (same sends, arrivals of the same log entries),
    within the channel's half-window hypothesis, and the coupling holds at its end -/
theorem C01_system_refines_channel (env : Env) (hl : EnvLaws env)
    (sub : Nat) (ci : Cipher) (size : Nat) (hsz : 1 ≤ size) (start : Nat) (ops : List SysOp) (s : Sys) (ch : Chan)
    (h0 : Good env sub ci size start s ch) (hok : Sys.runOk env sub s ops = true) :
    Good env sub ci size start (Sys.run env sub s ops) (Chan.run (wrap env ci) size ch (Sys.absOps env sub s ops)) ∧
    Chan.runOk (wrap env ci) size ch (Sys.absOps env sub s ops) = true :=
  sys_refines env hl sub ci size hsz start ops s ch h0 hok

open Nx.L1 Nx.Prudp in
/-- **Safety, end to end.** Whatever the network does with what the sending endpoint emitted, what the receiving
    application can `recv` on the substream is a prefix of the messages the sending application's `send` accepted. -/
theorem C01_system_safety (env : Env) (hl : EnvLaws env)
    (sub : Nat) (ci : Cipher) (size : Nat) (hsz : 1 ≤ size) (start : Nat) (ops : List SysOp) (s : Sys) (ch : Chan)
    (h0 : Good env sub ci size start s ch) (hok : Sys.runOk env sub s ops = true) :
    ((Sys.run env sub s ops).b.queues[sub]?.getD []) <+: (Sys.run env sub s ops).accepted :=
  good_safe (sys_refines env hl sub ci size hsz start ops s ch h0 hok).1

open Nx.L1 Nx.Prudp in
/-- **Completeness, end to end.** Once the receiver's window has released as many packets as the sender emitted, no `send` is
    between its fragments and the sender is still CONNECTED or called `disconnect()` while no `send` was in progress (`hopen`), the
    receiving application has exactly the accepted messages; and, unless it has reached end-of-stream, no partial message is pending. -/
theorem C01_system_complete (env : Env) (hl : EnvLaws env)
    (sub : Nat) (ci : Cipher) (size : Nat) (hsz : 1 ≤ size) (start : Nat) (ops : List SysOp) (s : Sys) (ch : Chan)
    (h0 : Good env sub ci size start s ch) (hok : Sys.runOk env sub s ops = true)
    (hall : (Sys.run env sub s ops).nrel = (Sys.run env sub s ops).net.length)
    (hidle : (Sys.run env sub s ops).pend = [])
    (hopen : (Sys.run env sub s ops).a.state = STATE_CONNECTED ∨ (Sys.run env sub s ops).clean = true) :
    ((Sys.run env sub s ops).b.queues[sub]?.getD []) = (Sys.run env sub s ops).accepted ∧
    ((Sys.run env sub s ops).b.eof = false → ((Sys.run env sub s ops).b.fragBufs[sub]?.getD []) = []) :=
  good_complete (sys_refines env hl sub ci size hsz start ops s ch h0 hok).1 hall hidle hopen

open Nx.L1 Nx.Prudp in
/-- **Liveness, end to end.** Starting from the initial channel: if the receiving endpoint is still open, no `send` is between
    its fragments, the sender is still CONNECTED or called `disconnect()` while no `send` was in progress (`hconn`), and every
    packet the sending endpoint handed to its transport has been delivered at least once (as seen in the corresponding channel
    run), the receiving application has exactly the accepted messages. -/
theorem C01_system_liveness (env : Env) (hl : EnvLaws env)
    (sub : Nat) (ci : Cipher) (size : Nat) (hsz : 1 ≤ size) (start : Nat) (hs : start < 65536) (ops : List SysOp) (s : Sys)
    (h0 : Good env sub ci size start s (Chan.init start)) (hok : Sys.runOk env sub s ops = true)
    (hopen : (Sys.run env sub s ops).b.eof = false) (hidle : (Sys.run env sub s ops).pend = [])
    (hconn : (Sys.run env sub s ops).a.state = STATE_CONNECTED ∨ (Sys.run env sub s ops).clean = true)
    (hall : ∀ j, j < (Sys.run env sub s ops).net.length → j ∈ arrived (wrap env ci) size (Chan.init start) (Sys.absOps env sub s ops)) :
    ((Sys.run env sub s ops).b.queues[sub]?.getD []) = (Sys.run env sub s ops).accepted := by
  obtain ⟨hg, hrok⟩ := sys_refines env hl sub ci size hsz start ops s (Chan.init start) h0 hok
  exact good_live hl hsz hs hg hrok hopen hidle hconn hall

open Nx.L1 Nx.Prudp in
/-- **Graceful close, end to end.** If the receiving endpoint has reached end-of-stream — in this system that can only happen
    through the sender's DISCONNECT being released by the window — and `disconnect()` was called while no `send` was between its
    fragments, then everything the sending application passed to `send` had been delivered before: `recv` returns all of it,
    then raises. -/
theorem C01_system_graceful_close (env : Env) (hl : EnvLaws env)
    (sub : Nat) (ci : Cipher) (size : Nat) (hsz : 1 ≤ size) (start : Nat) (ops : List SysOp) (s : Sys) (ch : Chan)
    (h0 : Good env sub ci size start s ch) (hok : Sys.runOk env sub s ops = true)
    (heof : (Sys.run env sub s ops).b.eof = true) (hclean : (Sys.run env sub s ops).clean = true) :
    ((Sys.run env sub s ops).b.queues[sub]?.getD []) = (Sys.run env sub s ops).accepted :=
  good_closed (sys_refines env hl sub ci size hsz start ops s ch h0 hok).1 heof hclean

open Nx.L1 Nx.Prudp in
/-- the hypothesis `Good` holds at the start: for every environment, every substream the settings allow and every choice of
    addresses, ports, session ids, random draws, connection states and the receiver's record of the peer's session id, two
    freshly constructed endpoints are coupled with the initial channel -/
theorem C01_system_initial (env : Env) (sub : Nat) (hsub : sub ≤ env.s.maxSubstreamId)
    (va vb : Option Nat) (ua ca sa ub cb sb : Nat) (la ra lb rb : Addr) (lpa lta rpa rta lpb ltb rpb rtb : Nat) (st stb : Nat)
    (rsb : Option Nat) :
    let a := { Conn.new env va ua ca sa la lpa lta ra rpa rta with state := st }
    let b := { Conn.new env vb ub cb sb lb lpb ltb rb rpb rtb with state := stb, remoteSessionId := rsb }
    Good env sub (cipherOf a sub) env.s.fragmentSize 1 (Sys.fresh a b) (Chan.init 1) := by
  intro a b
  have hn : sub < env.s.maxSubstreamId + 1 := by omega
  refine good_of_established (env := env) sub 1 a b
    { lt := by decide
      ctr := List.getElem?_replicate_of_lt hn
      akey := ⟨_, List.getElem?_replicate_of_lt hn, rfl⟩
      bkey := ⟨_, List.getElem?_replicate_of_lt hn, rfl⟩
      same := rfl
      con := rfl
      win := List.getElem?_replicate_of_lt hn
      q := List.getElem?_replicate_of_lt hn
      fb := List.getElem?_replicate_of_lt hn
      live := ⟨rfl, rfl⟩
      idle := Or.inl rfl }

open Nx.L1 Nx.Prudp in
/-- … and after both sides have logged in with the same session key (`login` → `set_session_key`: the per-substream key chain,
    cipher positions back to 0), whatever the user ids -/
theorem C01_system_initial_logged_in (env : Env) (sub : Nat) (hsub : sub ≤ env.s.maxSubstreamId) (key : Bytes) (pa ca pb cb : Nat)
    (va vb : Option Nat) (ua cka sa ub ckb sb : Nat) (la ra lb rb : Addr) (lpa lta rpa rta lpb ltb rpb rtb : Nat) (st stb : Nat)
    (rsb : Option Nat) :
    let a := { (Conn.new env va ua cka sa la lpa lta ra rpa rta).login pa ca key with state := st }
    let b := { (Conn.new env vb ub ckb sb lb lpb ltb rb rpb rtb).login pb cb key with state := stb, remoteSessionId := rsb }
    Good env sub (cipherOf a sub) env.s.fragmentSize 1 (Sys.fresh a b) (Chan.init 1) := by
  intro a b
  have hn : sub < env.s.maxSubstreamId + 1 := by omega
  -- both ends hold the `sub`-th key of the same chain, at position 0
  obtain ⟨k, hk⟩ : ∃ k, (keyChain (env.s.maxSubstreamId + 1) key)[sub]? = some k :=
    ⟨_, List.getElem?_eq_getElem (by rw [keyChain_length]; exact hn)⟩
  have hca : a.relCiphers[sub]? = some { key := k } := by
    simp only [a, Conn.login, Conn.new, List.length_replicate, List.getElem?_map, hk, Option.map]
  have hcb : b.relCiphers[sub]? = some { key := k } := by
    simp only [b, Conn.login, Conn.new, List.length_replicate, List.getElem?_map, hk, Option.map]
  refine good_of_established (env := env) sub 1 a b
    { lt := by decide
      ctr := List.getElem?_replicate_of_lt hn
      akey := ⟨_, hca, rfl⟩
      bkey := ⟨_, hcb, rfl⟩
      same := by rw [hca, hcb]
      con := rfl
      win := List.getElem?_replicate_of_lt hn
      q := List.getElem?_replicate_of_lt hn
      fb := List.getElem?_replicate_of_lt hn
      live := ⟨rfl, rfl⟩
      idle := Or.inl rfl }

open Nx.L1 Nx.Prudp in
/-- **acknowledgements touch timers only.** Whatever packet carrying the ACK or the aggregate MULTI_ACK flag (and not of the
    handshake types) is handed to `handle` — genuine, stale, coalesced, or forged — the sequence counters, the stream ciphers
    and the fragment size are what they were, and the state is what it was or DISCONNECTED (`AckFr`); that nothing at all but
    retransmission timers is written — and `cleanup` runs only for an acknowledged DISCONNECT — is `handle_ack_steps`
    (`NxProofs/Footprint.lean`). It is a step of the system (`SysOp.ackIn`), so the end-to-end theorems hold with
    acknowledgements of any kind arriving at the sender at any time: they can delay or stop retransmission, never corrupt,
    reorder or duplicate what is delivered. (A SYN/ACK is excluded: on an established connection whose SYN timer is still
    registered it makes the client send another CONNECT, which takes a sequence id — the mechanism of repaired defect D19.) -/
theorem acks_touch_timers_only (env : Env) (now : Time) (c : Conn) (p : Packet) (hack : (hasAck p.flags || hasMultiAck p.flags) = true)
    (hns : p.type ≠ TYPE_SYN) (hnc : p.type ≠ TYPE_CONNECT) : AckFr c (c.handle env now p).c :=
  handle_ack_ackFr env now c p hack hns hnc

open Nx.L1 Nx.Prudp in
/-- **receiving does not disturb sending** (any substream): an ordinary reliable packet through the whole receive path leaves
    the sequence counter, key, encryption position and fragment size of every substream's sender role as they were -/
theorem receiving_does_not_disturb_sending (env : Env) (now : Time) (c : Conn) (p : Packet) (sub : Nat) (ho : Ordinary p) :
    SendFr c (c.handle env now p).c sub := handle_ordinary_sendFr env now c p sub ho

open Nx.L1 Nx.Prudp in
/-- **sending does not disturb receiving** (any substream, live link): windows, queues, fragment buffers, EOF flag, state, key
    and decryption position of every substream's receiver role are what they were after a `send` on any substream -/
theorem sending_does_not_disturb_receiving (env : Env) (now : Time) (c : Conn) (data : Bytes) (s sub : Nat) (hl : c.linkUp = true) :
    RecvFr c (c.send env now data s).c sub := send_recvFr env now c data s sub hl

open Nx.L1 Nx.Prudp in
/-- **substreams are independent on the sender side**: a `send` on another substream leaves this one's sender role untouched -/
theorem other_substreams_do_not_disturb (env : Env) (now : Time) (c : Conn) (data : Bytes) (s sub : Nat) (hne : s ≠ sub) :
    SendFr c (c.send env now data s).c sub := send_other_sendFr env now c data s sub hne

open Nx.L1 Nx.Prudp in
/-- **a retransmission is a copy.** What a fired retransmission timer hands to the transport is the stored packet itself
    — never a re-encoding (no second pass through compression, cipher or signature) — or nothing; what it stores is that packet
    again; and it leaves every substream's sender role untouched -/
theorem retransmission_is_the_stored_packet (env : Env) (now : Time) (c : Conn) (p : Packet) (k : Nat) :
    (∀ q ∈ emitted (c.fireOne env now (.resend p k)), q = p) ∧ ResFr c (c.fireOne env now (.resend p k)).c [p] ∧
    (∀ sub, SendFr c (c.fireOne env now (.resend p k)).c sub) := fire_resend env now c p k

open Nx.L1 Nx.Prudp in
/-- **the sender's retransmissions are re-deliveries.** In every reachable state of the system (`Good` carries the invariant
    `TimersOk`: the retransmission timers of the sender hold, of the channel's packets, nothing but elements of `net` — the send
    path stores exactly what it emits, the receive path and acknowledgements store nothing), a fired retransmission timer emits
    an element of `net`: a copy of something handed to the transport before, which the network of the system (and the L2
    adversary) may deliver any number of times anyway. `SysOp.fireResend` is a step of the system. -/
theorem C01_retransmission_is_redelivery (env : Env) (hl : EnvLaws env)
    (sub : Nat) (ci : Cipher) (size : Nat) (hsz : 1 ≤ size) (start : Nat) (ops : List SysOp) (s : Sys) (ch : Chan)
    (h0 : Good env sub ci size start s ch) (hok : Sys.runOk env sub s ops = true) (now : Time) (p : Packet) (k : Nat)
    (hp : p ∈ resendsOf (Sys.run env sub s ops).a) (hr : relevant sub p = true) :
    ∀ q ∈ emitted ((Sys.run env sub s ops).a.fireOne env now (.resend p k)), q = p ∧ q ∈ (Sys.run env sub s ops).net := fun q hq =>
  have e := (fire_resend env now _ p k).1 q hq
  ⟨e, e ▸ (sys_refines env hl sub ci size hsz start ops s ch h0 hok).1.tim p hp hr⟩

open Nx.L1 Nx.Prudp in
/-- **what a handshake has to establish.** `Established sub start a b` lists observable facts about two connection objects
    (the sender's counter of the substream is `start`, its cipher at position 0; the receiver's window expects `start` and is
    empty, queue and fragment buffer empty, same key, position 0, live; no retransmission of the channel pending). They suffice:
    the two endpoints and the initial channel `Chan.init start` are coupled, and every end-to-end theorem applies from there on. -/
theorem C01_system_established (sub start : Nat) (a b : Conn) (h : Established sub start a b) :
    Good env sub (cipherOf a sub) a.fragmentSize start (Sys.fresh a b) (Chan.init start) := good_of_established sub start a b h

open Nx.L1 Nx.Prudp in
/-- the WHOLE modelled handshake as one computation: `handshake()` → SYN → `PRUDPServerStream.handle` → SYN/ACK → `handle` →
    CONNECT → `handle` (the server creates, logs in and serves its connection object) → CONNECT/ACK → `handle` → the parked
    `handshake()` resumes; the result is the client's and the server's connection object -/
def handshakeRun (env : Env) (cAddr sAddr : Addr) : Option (Conn × Conn) :=
  let c0 := Conn.new env (some 1) 1 2 3 cAddr 15 10 sAddr 1 10
  let r1 := c0.handshake env 0 none
  let em (outs : List SOut) : List Packet := outs.filterMap (fun o => match o with | .emit _ p _ => some p | _ => none)
  match emitted r1 with
  | [syn] =>
    let s0 : ServerStream := { key := none, supFuncs := 0, maxSub := 1, minorVer := 0, addr := sAddr, port := 1, type := 10 }
    let sr1 := s0.handle env 1 {} true syn cAddr
    match em sr1.outs with
    | [synAck] =>
      let r2 := r1.c.handle env 2 synAck
      match emitted r2 with
      | [con] =>
        let sr2 := sr1.s.handle env 3 { localSessionId := 9 } true con cAddr
        match em sr2.outs, clientLookup (cAddr, 15, 10) sr2.s.clients with
        | [conAck], some cS => some ((r2.c.handle env 4 conAck).c.resumeHandshake 4 |>.c, cS)
        | _, _ => none
      | _ => none
    | _ => none
  | _ => none

/-! non-vacuity of `Established`, and the link to the handshake: `handshakeRun` leaves the two connection objects `Established` in
    both directions on both substreams: client→server starts at id 2 on substream 0 (the CONNECT took id 1; the server's window
    was skipped past it), server→client and substream 1 at id 1. (Evaluated on a concrete configuration; for every configuration:
    `handshake_leaves_established`, `handshake_leaves_established_without_credentials` below.) -/
open Nx.L1 Nx.Prudp in
example :
    let env : Env := { C04.toyEnv with s := { fragmentSize := 2, transport := TRANSPORT_TCP, maxSubstreamId := 1 } }
    (handshakeRun env ("10.0.0.2", 1) ("10.0.0.1", 2)).map (fun (c, s) =>
      (c.state, s.state, establishedB 0 2 c s, establishedB 0 1 s c, establishedB 1 1 c s, establishedB 1 1 s c)) =
      some (STATE_CONNECTED, STATE_CONNECTED, true, true, true, true) := by decide +kernel

open Nx.L1 Nx.Prudp in
/-- **substreams are independent on the receiver side**: `process_reliable` of a packet of another substream (whose window holds
    packets of that substream), as long as it does not end the connection — a released DISCONNECT does —, leaves windows, queue,
    fragment buffer, key and decryption position of this substream's receiver role untouched -/
theorem other_substreams_do_not_disturb_receiving (env : Env) (c : Conn) (p : Packet) (sub : Nat) (hne : p.substreamId ≠ sub)
    (hgw : ∀ w, c.windows[p.substreamId]? = some w → ∀ kq ∈ w.packets, kq.2.substreamId = p.substreamId)
    (hes : EofState c) (heof : (c.processReliable env p).c.eof = c.eof) : RecvFr c (c.processReliable env p).c sub :=
  processReliable_other_recvFr env c p sub hne hgw hes heof

/-! non-vacuity of the retransmission theorems: with a scheduler (as after `handshake`), a `send` arms one timer per fragment,
    the timers hold exactly what was handed to the transport, and a fired one hands the same packet over again -/
open Nx.L1 Nx.Prudp in
example :
    let env : Env := { C04.toyEnv with s := { fragmentSize := 2, transport := TRANSPORT_TCP } }
    let a := { Conn.new env (some 1) 1 2 3 ("10.0.0.2", 1) 15 10 ("10.0.0.1", 2) 1 10 with state := STATE_CONNECTED, sched := some {} }
    let b := Conn.new env (some 1) 4 5 6 ("10.0.0.1", 2) 1 10 ("10.0.0.2", 1) 15 10
    let s := Sys.run env 0 (Sys.fresh a b) [SysOp.send 0 [1, 2, 3]]
    resendsOf s.a = s.net ∧ s.net.length = 2 ∧ (∀ q ∈ s.net, relevant 0 q = true) ∧
    (s.net.map fun q => emitted (s.a.fireOne env 7 (.resend q 0))) = s.net.map (fun q => [q]) := by decide +kernel

/-! non-vacuity of the system theorems: a run with a two-fragment message, reordering, duplication (one copy through the whole
    receive path), a forged DISCONNECT, data of the other direction sent by the receiver endpoint and received by the sender endpoint, acknowledgements and an
    aggregate acknowledgement arriving at either end, a keep-alive of the receiver endpoint, a refused `send`, then a
    three-fragment message sent fragment by fragment with a keep-alive ping between its fragments (and a second `send` that
    finds the lock taken), then a graceful `disconnect()`, a refused `send` after it and the DISCONNECT delivered through `handle`
    meets `Sys.runOk`; the receiver ends up at end-of-stream with exactly the accepted messages (stream transport = no cipher; the
    theorems hold for every key, `endpoint_cipher_ok`) -/
open Nx.L1 Nx.Prudp in
example :
    let env : Env := { C04.toyEnv with s := { fragmentSize := 2, transport := TRANSPORT_TCP } }
    let a := { Conn.new env (some 1) 1 2 3 ("10.0.0.2", 1) 15 10 ("10.0.0.1", 2) 1 10 with state := STATE_CONNECTED }
    let b := { Conn.new env (some 1) 4 5 6 ("10.0.0.1", 2) 1 10 ("10.0.0.2", 1) 15 10 with state := STATE_CONNECTED, remoteSessionId := some 3 }
    let forged : Packet := { type := TYPE_DISCONNECT, flags := 6, packetId := 1, sessionId := 3, signature := some [99] }
    let ack : Packet := { type := TYPE_DATA, flags := FLAG_ACK, packetId := 1, sessionId := 6, signature := some [1] }
    let aggr : Packet := { type := TYPE_DATA, flags := FLAG_ACK + FLAG_MULTI_ACK, packetId := 2, substreamId := 1, payload := [0, 0, 2, 0], signature := some [2] }
    let back : Packet := { type := TYPE_DATA, flags := 14, packetId := 1, sessionId := 6, payload := [42], signature := some [1] }
    let ops := [SysOp.send 0 [1, 2, 3], .deliver 1, .bSend 1 [7, 7, 7] 0, .aRecv 1 back, .inject 1 forged, .ackIn 1 ack, .deliverH 2 1, .bPing 2,
                .deliverH 3 0, .ackIn 4 aggr, .bAckIn 4 ack, .send 5 [], .deliver 7,
                .begin 6 [4, 5, 6, 7, 8], .frag 6, .ping 7, .send 7 [9], .frag 8, .frag 9, .deliver 5, .deliver 3, .deliver 4, .deliver 2,
                .disconnect 10, .send 11 [10], .deliverH 12 6]
    Sys.runOk env 0 (Sys.fresh a b) ops = true ∧
    (Sys.run env 0 (Sys.fresh a b) ops).b.queues = [[[1, 2, 3], [4, 5, 6, 7, 8]]] ∧
    (Sys.run env 0 (Sys.fresh a b) ops).accepted = [[1, 2, 3], [4, 5, 6, 7, 8]] ∧
    (Sys.run env 0 (Sys.fresh a b) ops).net.map (·.type) = [TYPE_DATA, TYPE_DATA, TYPE_DATA, TYPE_PING, TYPE_DATA, TYPE_DATA, TYPE_DISCONNECT] ∧
    (Sys.run env 0 (Sys.fresh a b) ops).nrel = 7 ∧ (Sys.run env 0 (Sys.fresh a b) ops).pend = [] ∧
    (Sys.run env 0 (Sys.fresh a b) ops).b.eof = true ∧ (Sys.run env 0 (Sys.fresh a b) ops).clean = true := by decide +kernel

/-- a compression that changes the bytes and whose inverse can fail (a one-byte header, as zlib's 0x78): the laws the system
    theorems assume are satisfiable by something other than the identity -/
def markEnv : L1.Env :=
  { C04.toyEnv with
    s := { fragmentSize := 2, transport := Nx.Prudp.TRANSPORT_TCP },
    compress := fun b => 0x78 :: b,
    decompress := fun b => match b with
      | 0x78 :: r => .ok r
      | _ => .error .value }

/-- `markEnv` meets both laws of `EnvLaws` -/
theorem markEnv_laws : L1.EnvLaws markEnv := ⟨fun _ => rfl, fun _ _ h => by cases h⟩

/-! non-vacuity with compression on: a run over `markEnv` (fragments travel with the header byte in front, so the wire differs
    from the plaintext and positions advance by the compressed length) with reordering and a duplicate meets `Sys.runOk`
    and the receiver has exactly the accepted messages -/
open Nx.L1 Nx.Prudp in
example :
    let env := markEnv
    let a := { Conn.new env (some 1) 1 2 3 ("10.0.0.2", 1) 15 10 ("10.0.0.1", 2) 1 10 with state := STATE_CONNECTED }
    let b := { Conn.new env (some 1) 4 5 6 ("10.0.0.1", 2) 1 10 ("10.0.0.2", 1) 15 10 with state := STATE_CONNECTED, remoteSessionId := some 3 }
    let ops := [SysOp.send 0 [1, 2, 3], .send 1 [9], .deliver 2, .deliver 1, .deliverH 2 0, .deliver 1, .disconnect 3, .deliver 3]
    Sys.runOk env 0 (Sys.fresh a b) ops = true ∧
    (Sys.run env 0 (Sys.fresh a b) ops).net.map (·.payload) = [[0x78, 1, 2], [0x78, 3], [0x78, 9], []] ∧
    (Sys.run env 0 (Sys.fresh a b) ops).b.queues = [[[1, 2, 3], [9]]] ∧
    (Sys.run env 0 (Sys.fresh a b) ops).accepted = [[1, 2, 3], [9]] ∧
    (Sys.run env 0 (Sys.fresh a b) ops).b.eof = true := by decide +kernel

/-! ## from the handshake to `Established`

*For every environment, every client and server configuration, every credential and every pair of packets the client is handed: if
the client is CONNECTED after `handshake()`, a SYN packet, a CONNECT packet and the resumption of `handshake()`, and the server
registered a connection for the client's CONNECT, then the two are `Established` towards each other on every substream the
settings allow* — `handshake_leaves_established`, from the server's half (`server_half_after_connect`: what `process_connect`
registers) and the client's half (`client_half_after_handshake`: `handshake()`, `process_syn`, `process_connect` never touch the
receiver role or the ciphers, and the send counter of substream 0 moves from 1 to 2 exactly when the SYN/ACK is accepted). The one
hypothesis left is that the two ends hold equal substream keys and cipher setting: with credentials that is the ticket's session key
reaching both ends (C05 / C16); without credentials it is proved too (`handshake_leaves_established_without_credentials`: the
handshake never touches keys or cipher setting, both ends keep the default key). Besides the theorem, the kernel checks closed
configurations (`handshakeRun`) and the L1 driver evaluates `establishedB` on the model endpoints after every replayed REAL
handshake (`est`). `handshake_any_packets_leaves_established` is the same for ANY sequence of SYN / CONNECT packets handed to the client (duplicates,
reordering, crafted ones). Not covered by the theorems: the client's own retransmission timers firing during the handshake (the probe and
the replays see those). -/

open Nx.L1 Nx.Prudp in
/-- **the server's half, for every configuration**: the connection object `process_connect` registers for a CONNECT from a peer it
    did not know — whatever the environment, the packet, the random draws and the ticket key — is, on every substream the settings
    allow: an empty receive window at id 2 (substream 0: the CONNECT took id 1) or 1, empty queue and fragment buffer, open, on the
    link as given, send counter 1, both cipher positions 0, no retransmission pending, CONNECTED -/
theorem server_half_after_connect (env : Env) (now : Time) (rnd : Rnd) (up : Bool) (s : ServerStream) (p : Packet) (addr : Addr)
    (hnew : clientLookup (addr, p.sourcePort, p.sourceType) s.clients = none) (cs : Conn)
    (hreg : clientLookup (addr, p.sourcePort, p.sourceType) (s.processConnect env now rnd up p addr).s.clients = some cs)
    (sub : Nat) (hsub : sub ≤ env.s.maxSubstreamId) : ServerFresh cs sub up :=
  server_half_established env now rnd up s p addr hnew cs hreg sub hsub

open Nx.L1 Nx.Prudp in
/-- **the client's half, for every configuration**: a new client object, `handshake()`, a SYN packet handled, a CONNECT packet
    handled, `handshake()` resumed — if the client is CONNECTED after that, then on every substream the settings allow its send counter
    is 2 (substream 0) or 1, its receive window is empty at 1, queue and fragment buffer are empty, it is open on a live link, both
    cipher positions are 0 and its pending retransmission timers hold handshake packets only -/
theorem client_half_after_handshake (env : Env) (version : Option Nat) (u chk sid : Nat) (la : Addr) (lp lt : Nat) (ra : Addr) (rp rt : Nat)
    (t0 t1 t2 t3 : Time) (creds : Option Creds) (synAck conAck : Packet) (hs : synAck.type = TYPE_SYN) (hc : conAck.type = TYPE_CONNECT)
    (sub : Nat) (hsub : sub ≤ env.s.maxSubstreamId) :
    let c4 := ((((Conn.new env version u chk sid la lp lt ra rp rt).handshake env t0 creds).c.handle env t1 synAck).c.handle env t2 conAck).c.resumeHandshake t3 |>.c
    c4.state = STATE_CONNECTED → ClientReady c4 sub :=
  fun h => (client_half_established env version u chk sid la lp lt ra rp rt t0 t1 t2 t3 creds synAck conAck hs hc sub hsub h).1

open Nx.L1 Nx.Prudp in
/-- **the handshake leaves the two endpoints `Established` in both directions** (hence, by `C01_duplex_established`, every duplex
    theorem applies to what follows) -/
theorem handshake_leaves_established (envC envS : Env) (version : Option Nat) (u chk sid : Nat) (la : Addr) (lp lt : Nat) (ra : Addr) (rp rt : Nat)
    (t0 t1 t2 t3 : Time) (creds : Option Creds) (synAck conAck : Packet) (hs : synAck.type = TYPE_SYN) (hc : conAck.type = TYPE_CONNECT)
    (now : Time) (rnd : Rnd) (s : ServerStream) (con : Packet) (addr : Addr)
    (hnew : clientLookup (addr, con.sourcePort, con.sourceType) s.clients = none) (cs : Conn)
    (hreg : clientLookup (addr, con.sourcePort, con.sourceType) (s.processConnect envS now rnd true con addr).s.clients = some cs)
    (sub : Nat) (hsubC : sub ≤ envC.s.maxSubstreamId) (hsubS : sub ≤ envS.s.maxSubstreamId) :
    let c4 := ((((Conn.new envC version u chk sid la lp lt ra rp rt).handshake envC t0 creds).c.handle envC t1 synAck).c.handle envC t2 conAck).c.resumeHandshake t3 |>.c
    c4.state = STATE_CONNECTED →
    (c4.relCiphers[sub]?).map StreamCipher.key = (cs.relCiphers[sub]?).map StreamCipher.key → cs.cipherOn = c4.cipherOn →
    Established sub (if sub = 0 then 2 else 1) c4 cs ∧ Established sub 1 cs c4 := by
  intro c4 hconn hk hon
  exact established_of_halves sub c4 cs
    (client_half_established envC version u chk sid la lp lt ra rp rt t0 t1 t2 t3 creds synAck conAck hs hc sub hsubC hconn).1
    (server_half_established envS now rnd true s con addr hnew cs hreg sub hsubS) hk hon

open Nx.L1 Nx.Prudp in
/-- **… and without credentials nothing is left to assume**: a client that logs in with no credentials, a server without a ticket
    key, the same transport setting at both ends — the handshake never touches keys or cipher setting, both ends hold the default key
    under the transport's cipher setting, so a completed handshake leaves them `Established` in both directions on every substream -/
theorem handshake_leaves_established_without_credentials (envC envS : Env) (version : Option Nat) (u chk sid : Nat) (la : Addr) (lp lt : Nat) (ra : Addr) (rp rt : Nat)
    (t0 t1 t2 t3 : Time) (synAck conAck : Packet) (hs : synAck.type = TYPE_SYN) (hc : conAck.type = TYPE_CONNECT)
    (now : Time) (rnd : Rnd) (s : ServerStream) (con : Packet) (addr : Addr) (hkey : s.key = none)
    (htr : envS.s.transport = envC.s.transport)
    (hnew : clientLookup (addr, con.sourcePort, con.sourceType) s.clients = none) (cs : Conn)
    (hreg : clientLookup (addr, con.sourcePort, con.sourceType) (s.processConnect envS now rnd true con addr).s.clients = some cs)
    (sub : Nat) (hsubC : sub ≤ envC.s.maxSubstreamId) (hsubS : sub ≤ envS.s.maxSubstreamId) :
    let c4 := ((((Conn.new envC version u chk sid la lp lt ra rp rt).handshake envC t0 none).c.handle envC t1 synAck).c.handle envC t2 conAck).c.resumeHandshake t3 |>.c
    c4.state = STATE_CONNECTED → Established sub (if sub = 0 then 2 else 1) c4 cs ∧ Established sub 1 cs c4 := by
  intro c4 hconn
  obtain ⟨hcr, hck, hcon⟩ := client_half_established envC version u chk sid la lp lt ra rp rt t0 t1 t2 t3 none synAck conAck hs hc sub hsubC hconn
  obtain ⟨hson, hsk⟩ := server_ciphers envS now rnd true s con addr hnew cs hreg
  refine established_of_halves sub c4 cs hcr (server_half_established envS now rnd true s con addr hnew cs hreg sub hsubS) ?_ ?_
  · rw [hck, hsk hkey]
    simp only [clientKeys, List.getElem?_map]
    rw [List.getElem?_replicate_of_lt (by omega), List.getElem?_replicate_of_lt (by omega)]
  · rw [hson, hcon, htr]

open Nx.L1 Nx.Prudp in
/-- **the handshake theorem for ANY handshake packets at the client**: after `handshake()` the client is handed any sequence of SYN
    and CONNECT packets — genuine, duplicated, reordered, late, crafted with any parameters and signatures, any number of them —
    and then `handshake()` resumes (`clientRun`; excluded: the step that made the client CONNECTED raised, i.e. the CONNECT could not
    be encoded). If the client ends up CONNECTED and the server registered a connection for a CONNECT from this peer, the two are
    `Established` towards each other on every substream, given equal substream keys and cipher setting (see
    `handshake_leaves_established_without_credentials` for when that is a theorem too). The CONNECT went out exactly once; a second
    SYN/ACK, whatever it says, changed nothing (`C07.late_synack_changes_nothing`). -/
theorem handshake_any_packets_leaves_established (envC envS : Env) (version : Option Nat) (u chk sid : Nat) (la : Addr) (lp lt : Nat) (ra : Addr) (rp rt : Nat)
    (t0 t3 : Time) (creds : Option Creds) (xs : List HsPkt) (c' : Conn)
    (hr : clientRun envC ((Conn.new envC version u chk sid la lp lt ra rp rt).handshake envC t0 creds).c xs = some c')
    (now : Time) (rnd : Rnd) (s : ServerStream) (con : Packet) (addr : Addr)
    (hnew : clientLookup (addr, con.sourcePort, con.sourceType) s.clients = none) (cs : Conn)
    (hreg : clientLookup (addr, con.sourcePort, con.sourceType) (s.processConnect envS now rnd true con addr).s.clients = some cs)
    (sub : Nat) (hsubC : sub ≤ envC.s.maxSubstreamId) (hsubS : sub ≤ envS.s.maxSubstreamId)
    (hconn : (c'.resumeHandshake t3).c.state = STATE_CONNECTED)
    (hk : ((c'.resumeHandshake t3).c.relCiphers[sub]?).map StreamCipher.key = (cs.relCiphers[sub]?).map StreamCipher.key)
    (hon : cs.cipherOn = (c'.resumeHandshake t3).c.cipherOn) :
    Established sub (if sub = 0 then 2 else 1) (c'.resumeHandshake t3).c cs ∧ Established sub 1 cs (c'.resumeHandshake t3).c :=
  established_of_halves sub _ cs
    (client_half_any_packets envC version u chk sid la lp lt ra rp rt t0 t3 creds xs c' hr sub hsubC hconn).1
    (server_half_established envS now rnd true s con addr hnew cs hreg sub hsubS) hk hon

open Nx.L1 Nx.Prudp in
/-- a SYN or CONNECT packet as an input of `clientRun` -/
def hsPkt? (now : Time) (p : Packet) : Option HsPkt :=
  if h : p.type = TYPE_SYN then some ⟨now, p, Or.inl h⟩ else if h2 : p.type = TYPE_CONNECT then some ⟨now, p, Or.inr h2⟩ else none

open Nx.L1 Nx.Prudp in
/-- `handshakeRun` with noise at the client: it is handed the CONNECT/ACK too early (refused while CONNECTING), the genuine
    SYN/ACK, its duplicate, a crafted SYN/ACK with other parameters and another connection signature, the CONNECT/ACK, its
    duplicate, a late SYN/ACK and the crafted one again, and then resumes `handshake()` -/
def handshakeRunNoisy (env : Env) (cAddr sAddr : Addr) : Option (Conn × Conn) :=
  let c0 := Conn.new env (some 1) 1 2 3 cAddr 15 10 sAddr 1 10
  let r1 := c0.handshake env 0 none
  let em (outs : List SOut) : List Packet := outs.filterMap (fun o => match o with | .emit _ p _ => some p | _ => none)
  match emitted r1 with
  | [syn] =>
    let s0 : ServerStream := { key := none, supFuncs := 0, maxSub := 1, minorVer := 0, addr := sAddr, port := 1, type := 10 }
    let sr1 := s0.handle env 1 {} true syn cAddr
    match em sr1.outs with
    | [synAck] =>
      match emitted (r1.c.handle env 2 synAck) with
      | [con] =>
        let sr2 := sr1.s.handle env 3 { localSessionId := 9 } true con cAddr
        match em sr2.outs, clientLookup (cAddr, 15, 10) sr2.s.clients with
        | [conAck], some cS =>
          let crafted : Packet := { synAck with maxSubstreamId := 0, connectionSignature := some [9, 9, 9, 9] }
          match [hsPkt? 1 conAck, hsPkt? 2 synAck, hsPkt? 3 synAck, hsPkt? 3 crafted, hsPkt? 4 conAck, hsPkt? 5 conAck,
                 hsPkt? 6 synAck, hsPkt? 6 crafted].mapM id with
          | some xs => (clientRun env r1.c xs).map (fun c' => ((c'.resumeHandshake 7).c, cS))
          | none => none
        | _, _ => none
      | _ => none
    | _ => none
  | _ => none

/-! non-vacuity of `handshake_any_packets_leaves_established`: on `handshakeRunNoisy`, `clientRun` succeeds, the client is CONNECTED
    with the parameters of the GENUINE SYN/ACK (`maxSub` 1), its send counters are [2, 1] (one CONNECT), and the two ends are
    `Established` both ways on both substreams -/
open Nx.L1 Nx.Prudp in
example :
    let env : Env := { C04.toyEnv with s := { fragmentSize := 2, transport := TRANSPORT_TCP, maxSubstreamId := 1 } }
    (handshakeRunNoisy env ("10.0.0.2", 1) ("10.0.0.1", 2)).map (fun (c, s) =>
      (c.state == STATE_CONNECTED) && (c.counters == [2, 1]) && (c.maxSub == 1) && establishedB 0 2 c s && establishedB 0 1 s c &&
        establishedB 1 1 c s && establishedB 1 1 s c) = some true := by decide +kernel

/-! non-vacuity of `ClientReady`: the client the modelled handshake produces has every field of it (substreams 0 and 1) -/
open Nx.L1 Nx.Prudp in
example :
    let env : Env := { C04.toyEnv with s := { fragmentSize := 2, transport := TRANSPORT_TCP, maxSubstreamId := 1 } }
    (handshakeRun env ("10.0.0.2", 1) ("10.0.0.1", 2)).map (fun (c, _) =>
      [0, 1].all (fun sub =>
        (c.counters[sub]? == some (if sub = 0 then 2 else 1)) && (c.windows[sub]? == some { next := 1, packets := [] }) &&
        (c.queues[sub]? == some []) && (c.fragBufs[sub]? == some []) && !c.eof && c.linkUp &&
        ((c.relCiphers[sub]?).map (·.encPos) == some 0) && ((c.relCiphers[sub]?).map (·.decPos) == some 0) &&
        (resendsOf c).all (fun p => !relevant sub p))) = some true := by decide +kernel

/-! non-vacuity of `C07.late_synack_changes_nothing`: after the modelled handshake the client is CONNECTED and no SYN is waiting
    for its acknowledgement; a crafted SYN/ACK with other parameters leaves it as it was -/
open Nx.L1 Nx.Prudp in
example :
    let env : Env := { C04.toyEnv with s := { fragmentSize := 2, transport := TRANSPORT_TCP, maxSubstreamId := 1 } }
    let crafted : Packet := { type := TYPE_SYN, flags := FLAG_ACK, maxSubstreamId := 0, minorVersion := 0, supportedFunctions := 0,
                              connectionSignature := some [9, 9, 9, 9], signature := some [1] }
    (handshakeRun env ("10.0.0.2", 1) ("10.0.0.1", 2)).map (fun (c, _) =>
      (c.state == STATE_CONNECTED) && c.ackEvents.all (fun e => e.1.1 != TYPE_SYN) && ((c.handle env 9 crafted).c == c)) = some true := by
  decide +kernel

open Nx.L1 Nx.Prudp in
/-- **"For each direction … every interleaving of sends in both directions."** Two endpoints A and B, each both sender and
    receiver on substream `sub`. A history is any sequence of: an application `send` at either end — as one step, or fragment
    by fragment (`beginA`, `fragA`, …) with anything either end or the network does in between —, a keep-alive of either end, the delivery (through `handle`: gates, acknowledgement, window, release loop) of ANY packet either end has ever
    emitted to the other end — any order, any number of times, never = loss —, any acknowledgement arriving at either
    end, a retransmission timer of either end firing, any packet with a signature its receiver does not expect at either end, a graceful `disconnect()` of either end, and —
    since `sub` is any substream — sends of either end on the OTHER substreams and any ordinary packet of another substream
    arriving at either end (so the statement holds for every direction and substream while all the others are active). In every state such a history reaches, what B's application can read
    is a prefix of what A's application sent AND what A's application can read is a prefix of what B's sent. The step
    hypotheses (`Duplex.opOk`) are those of `Sys.opOk` for each view; for a delivery that is the half-window condition alone
    (`delivery_hypothesis_is_the_window`). -/
theorem C01_duplex_safety (env : Env) (hl : EnvLaws env) (sub : Nat) (ciA ciB : Cipher) (sizeA sizeB : Nat) (hA : 1 ≤ sizeA) (hB : 1 ≤ sizeB)
    (startA startB : Nat) (ops : List DOp) (d : Duplex) (chAB chBA : Chan)
    (h0 : DGood env sub ciA ciB sizeA sizeB startA startB d chAB chBA) (hok : Duplex.runOk env sub d ops = true) :
    ((Duplex.run env sub d ops).ab.b.queues[sub]?.getD []) <+: (Duplex.run env sub d ops).ab.accepted ∧
    ((Duplex.run env sub d ops).ab.a.queues[sub]?.getD []) <+: (Duplex.run env sub d ops).ba.accepted :=
  have h := duplex_run env hl sub ciA ciB sizeA sizeB hA hB startA startB ops d chAB chBA h0 hok
  ⟨good_safe h.ab, h.same.a ▸ good_safe h.ba⟩

open Nx.L1 Nx.Prudp in
/-- … and once everything either end emitted has been released at the other end (both still connected), and no `send` is between its fragments, each application has
    exactly what the other one sent -/
theorem C01_duplex_complete (env : Env) (hl : EnvLaws env) (sub : Nat) (ciA ciB : Cipher) (sizeA sizeB : Nat) (hA : 1 ≤ sizeA) (hB : 1 ≤ sizeB)
    (startA startB : Nat) (ops : List DOp) (d : Duplex) (chAB chBA : Chan)
    (h0 : DGood env sub ciA ciB sizeA sizeB startA startB d chAB chBA) (hok : Duplex.runOk env sub d ops = true)
    (hallA : (Duplex.run env sub d ops).ab.nrel = (Duplex.run env sub d ops).ab.net.length)
    (hallB : (Duplex.run env sub d ops).ba.nrel = (Duplex.run env sub d ops).ba.net.length)
    (hidleA : (Duplex.run env sub d ops).ab.pend = []) (hidleB : (Duplex.run env sub d ops).ba.pend = [])
    (hopenA : (Duplex.run env sub d ops).ab.a.state = STATE_CONNECTED) (hopenB : (Duplex.run env sub d ops).ba.a.state = STATE_CONNECTED) :
    ((Duplex.run env sub d ops).ab.b.queues[sub]?.getD []) = (Duplex.run env sub d ops).ab.accepted ∧
    ((Duplex.run env sub d ops).ab.a.queues[sub]?.getD []) = (Duplex.run env sub d ops).ba.accepted :=
  have h := duplex_run env hl sub ciA ciB sizeA sizeB hA hB startA startB ops d chAB chBA h0 hok
  ⟨(good_complete h.ab hallA hidleA (Or.inl hopenA)).1, h.same.a ▸ (good_complete h.ba hallB hidleB (Or.inl hopenB)).1⟩

open Nx.L1 Nx.Prudp in
/-- **Liveness in both directions.** From the initial channels: if both ends are still open and connected, neither has a `send`
    between its fragments (`hidleA`, `hidleB`) and every packet either end handed to its transport has been delivered to the other
    end at least once, each application has exactly what the other one sent. (That every packet does arrive once within the retransmission budget is the timers' job:
    `C01_retransmission_is_redelivery`, and on the real code the budget-regime sessions of the correspondence run.) -/
theorem C01_duplex_liveness (env : Env) (hl : EnvLaws env) (sub : Nat) (ciA ciB : Cipher) (sizeA sizeB : Nat) (hA : 1 ≤ sizeA) (hB : 1 ≤ sizeB)
    (startA startB : Nat) (hsA : startA < 65536) (hsB : startB < 65536) (ops : List DOp) (d : Duplex)
    (h0 : DGood env sub ciA ciB sizeA sizeB startA startB d (Chan.init startA) (Chan.init startB))
    (hok : Duplex.runOk env sub d ops = true)
    (hopenB : (Duplex.run env sub d ops).ab.b.eof = false) (hopenA : (Duplex.run env sub d ops).ba.b.eof = false)
    (hconA : (Duplex.run env sub d ops).ab.a.state = STATE_CONNECTED) (hconB : (Duplex.run env sub d ops).ba.a.state = STATE_CONNECTED)
    (hidleA : (Duplex.run env sub d ops).ab.pend = []) (hidleB : (Duplex.run env sub d ops).ba.pend = [])
    (hallA : ∀ j, j < (Duplex.run env sub d ops).ab.net.length →
      j ∈ arrived (wrap env ciA) sizeA (Chan.init startA) (Duplex.absAB env sub d ops))
    (hallB : ∀ j, j < (Duplex.run env sub d ops).ba.net.length →
      j ∈ arrived (wrap env ciB) sizeB (Chan.init startB) (Duplex.absBA env sub d ops)) :
    ((Duplex.run env sub d ops).ab.b.queues[sub]?.getD []) = (Duplex.run env sub d ops).ab.accepted ∧
    ((Duplex.run env sub d ops).ab.a.queues[sub]?.getD []) = (Duplex.run env sub d ops).ba.accepted := by
  obtain ⟨hg, hrA, hrB⟩ := duplex_refines env hl sub ciA ciB sizeA sizeB hA hB startA startB ops d _ _ h0 hok
  exact ⟨good_live hl hA hsA hg.ab hrA hopenB hidleA (Or.inl hconA) hallA,
    hg.same.a ▸ good_live hl hB hsB hg.ba hrB hopenA hidleB (Or.inl hconB) hallB⟩

open Nx.L1 Nx.Prudp in
/-- **Graceful close, both directions on one connection.** In every state a duplex history reaches: if B's application has
    seen end-of-stream — here that can only come from A's DISCONNECT being released by B's window — and A's `disconnect()` was
    called while no `send` of A was between its fragments, then B's application had received everything A's application sent;
    and the same with A and B exchanged. (While A is disconnecting it goes on receiving: `disconnectA` is a frame step of the
    B→A direction.) -/
theorem C01_duplex_graceful_close (env : Env) (hl : EnvLaws env) (sub : Nat) (ciA ciB : Cipher) (sizeA sizeB : Nat) (hA : 1 ≤ sizeA) (hB : 1 ≤ sizeB)
    (startA startB : Nat) (ops : List DOp) (d : Duplex) (chAB chBA : Chan)
    (h0 : DGood env sub ciA ciB sizeA sizeB startA startB d chAB chBA) (hok : Duplex.runOk env sub d ops = true) :
    ((Duplex.run env sub d ops).ab.b.eof = true → (Duplex.run env sub d ops).ab.clean = true →
      ((Duplex.run env sub d ops).ab.b.queues[sub]?.getD []) = (Duplex.run env sub d ops).ab.accepted) ∧
    ((Duplex.run env sub d ops).ab.a.eof = true → (Duplex.run env sub d ops).ba.clean = true →
      ((Duplex.run env sub d ops).ab.a.queues[sub]?.getD []) = (Duplex.run env sub d ops).ba.accepted) :=
  have h := duplex_run env hl sub ciA ciB sizeA sizeB hA hB startA startB ops d chAB chBA h0 hok
  ⟨good_closed h.ab, h.same.a ▸ good_closed h.ba⟩

open Nx.L1 Nx.Prudp in
/-- the duplex hypotheses hold for two endpoints that are `Established` in both directions (what a handshake leaves) -/
theorem C01_duplex_established (env : Env) (sub startA startB : Nat) (a b : Conn)
    (hab : Established sub startA a b) (hba : Established sub startB b a) :
    DGood env sub (cipherOf a sub) (cipherOf b sub) a.fragmentSize b.fragmentSize startA startB
      { ab := Sys.fresh a b, ba := Sys.fresh b a } (Chan.init startA) (Chan.init startB) :=
  duplex_established env sub startA startB a b hab hba

open Nx.L1 Nx.Prudp in
/-- the step hypothesis of a delivery to B in the duplex system is that of `deliverH` in the A→B view, i.e. the half-window
    condition alone: in the B→A view the step is `aRecv`, whose hypothesis (the packet is an ordinary one) holds for everything
    the coupling keeps in `net` (`Cpl.netord`) -/
theorem delivery_hypothesis_is_the_window {env : Env} {sub : Nat} {ci : Cipher} {size start : Nat} {d : Duplex} {ch : Chan} (now : Time) (j : Nat)
    (h : Good env sub ci size start d.ab ch) : d.opOk env sub (.toB now j) = d.ab.opOk env sub (.deliverH now j) := by
  show (d.ab.opOk env sub (.deliverH now j) && d.ba.opOkO env sub ((d.ab.net[j]?).map fun p => .aRecv now p)) = _
  rw [aRecv_ok env sub d.ba now h.cpl.netord j, Bool.and_true]

/-! non-vacuity: two established endpoints; A sends a two-fragment message fragment by fragment (B's send and a second send
    of A, which finds the lock taken, fall between the fragments), B two messages; the packets of both directions
    are delivered out of order, one twice; a forged DISCONNECT arrives at B and a forged DATA packet at A; a keep-alive of A, an acknowledgement arriving at A; the run meets `Duplex.runOk`,
    both endpoints are `Established` towards each other at the start; then A disconnects gracefully, B still sends a message
    which A (disconnecting) receives, A's DISCONNECT reaches B: end-of-stream at B with everything A sent delivered -/
open Nx.L1 Nx.Prudp in
example :
    let env : Env := { C04.toyEnv with s := { fragmentSize := 2, transport := TRANSPORT_TCP } }
    let a := { Conn.new env (some 1) 1 2 3 ("10.0.0.2", 1) 15 10 ("10.0.0.1", 2) 1 10 with state := STATE_CONNECTED, remoteSessionId := some 6 }
    let b := { Conn.new env (some 1) 4 5 6 ("10.0.0.1", 2) 1 10 ("10.0.0.2", 1) 15 10 with state := STATE_CONNECTED, remoteSessionId := some 3 }
    let ack : Packet := { type := TYPE_DATA, flags := FLAG_ACK, packetId := 1, sessionId := 6, signature := some [1] }
    let forgedB : Packet := { type := TYPE_DISCONNECT, flags := 6, packetId := 1, sessionId := 3, signature := some [99] }
    let forgedA : Packet := { type := TYPE_DATA, flags := 14, packetId := 1, sessionId := 6, payload := [66], signature := some [98] }
    let ops := [DOp.beginA 0 [1, 2, 3], .fragA 0, .sendB 0 [7, 7], .sendA 0 [5], .injectB 1 forgedB, .fragA 1, .toB 1 1, .toA 1 0, .injectA 1 forgedA, .toB 2 0, .toB 3 1, .pingA 4, .toB 4 2,
                .beginB 5 [8], .fragB 5, .toA 6 1, .ackToA 6 ack, .toA 7 0, .disconnectA 8, .sendB 9 [9], .toA 9 2, .toB 10 3]
    let d0 : Duplex := { ab := Sys.fresh a b, ba := Sys.fresh b a }
    (establishedB 0 1 a b && establishedB 0 1 b a) = true ∧
    Duplex.runOk env 0 d0 ops = true ∧
    (Duplex.run env 0 d0 ops).ab.b.queues = [[[1, 2, 3]]] ∧ (Duplex.run env 0 d0 ops).ab.accepted = [[1, 2, 3]] ∧
    (Duplex.run env 0 d0 ops).ab.a.queues = [[[7, 7], [8], [9]]] ∧ (Duplex.run env 0 d0 ops).ba.accepted = [[7, 7], [8], [9]] ∧
    (Duplex.run env 0 d0 ops).ab.b.eof = true ∧ (Duplex.run env 0 d0 ops).ab.clean = true ∧
    (Duplex.run env 0 d0 ops).ab.a = (Duplex.run env 0 d0 ops).ba.b := by decide +kernel

end Nx.C01
