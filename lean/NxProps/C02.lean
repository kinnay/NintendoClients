import NxProofs.Timers
import NxProofs.Silence
import NxProofs.KeepAlive
import NxProofs.Settle
import NxProofs.Gating
import NxProps.C04
import NxProofs.C02Ports
/-!
# C02 — no PRUDP operation hangs: silence and closure release every waiter

Model: L1 endpoint with its timer wheel (`Sched`, mirroring `anynet.scheduler`) and `Conn.advance` (fires what becomes due, each
timer at its own instant). `Conn.Released c` = DISCONNECTED ∧ every queue EOF ∧ handshake event set ∧ close event set ∧ no timer
left; `Conn.Dead c` = the same without the last clause. Either way every blocked `connect`, `recv`, `recv_unreliable`,
`disconnect` has been woken and will find the state that makes it raise / return. That a set `anyio.Event` or an EOF'd memory
stream does wake its waiter is anyio's behaviour: observed by the tie, not proved.

The argument: `Conn.Doomed c D` (dead, or some pending timer's retransmission chain runs out by `D`) is kept while time passes,
whatever fires; `Conn.KA c P` (dead, or a keep-alive timer that no acknowledgement entry can cancel is due by `P`) is kept by every
datagram handled and every application call, moves on by at most one period when timers fire, and implies `Doomed`. So the
bound of the property counts from the last instant something was heard.
-/
namespace Nx.C02
open Nx.Prudp Nx.L1

/-- `cleanup()` releases every waiter -/
theorem cleanup_releases (c : Conn) : c.cleanup.c.Released ∧ c.cleanup.err = none :=
  ⟨cleanup_released c, cleanup_no_error c⟩

/-- **connect bound / retransmission chain**: if the only pending timer is the retransmission of `p` (count `k`, due at `d`:
    `OnlyResend`) and the link is up, then after `advance` (timers fire, nothing arrives; fuel for `resend_limit − k + 1` rounds) to
    any `T ≥ d + (resend_limit − k)·resend_timeout` the connection is `Released`. For a fresh connect (`k = 0`,
    `d = t₀ + resend_timeout`) that bound is `t₀ + (resend_limit+1)·resend_timeout`. The single steps of the chain are
    `resend_below_limit` / `resend_at_limit`; arrivals are no part of this statement (those that are inert: C04). -/
theorem connect_bound (env : Env) (T : Nat) (m : Nat) (c : Conn) (p : Packet) (k : Nat) (d : Nat) (fuel : Nat)
    (h1 : c.OnlyResend p k d) (h2 : c.linkUp = true) (h3 : k + m = c.resendLimit) (h4 : m + 1 ≤ fuel)
    (h5 : d + m * (c.resendTimeout : Nat) ≤ T) : (Conn.advance env fuel T c).1.Released :=
  resend_chain env T m c p k d fuel h1 h2 h3 h4 h5

/-- one step of the chain below the limit, link up: `p` goes out again and its timer is armed with count `k + 1` -/
theorem resend_below_limit (env : Env) (now : Time) (c : Conn) (p : Packet) (k : Nat) (hk : k < c.resendLimit) (hl : c.linkUp = true) :
    c.resendPacket env now p k = R.ok (c.arm now p (k + 1)) [Out.emit c.remoteAddr p (encode env.cfg p)] :=
  resend_step_below env now c p k hk hl

/-- one step of the chain at the limit: `resend_packet` is `cleanup()` -/
theorem resend_at_limit (env : Env) (now : Time) (c : Conn) (p : Packet) (k : Nat) (hk : ¬ k < c.resendLimit) :
    c.resendPacket env now p k = c.cleanup :=
  resend_step_limit env now c p k hk

/-- **closed is closed**: `send` on a DISCONNECTED connection raises the closed-connection error; nothing changes, nothing goes out -/
theorem closed_send (env : Env) (now : Time) (c : Conn) (data : Bytes) (sub : Nat) (h : c.state = STATE_DISCONNECTED) :
    (c.send env now data sub).c = c ∧ (c.send env now data sub).outs = [] ∧ (c.send env now data sub).err = some .closed := by
  unfold Conn.send
  rw [if_pos (by rw [h]; decide)]
  exact ⟨rfl, rfl, rfl⟩

/-- `send_unreliable` on a DISCONNECTED connection: as `closed_send` -/
theorem closed_send_unreliable (env : Env) (now : Time) (c : Conn) (data : Bytes) (h : c.state = STATE_DISCONNECTED) :
    (c.sendUnreliable env now data).c = c ∧ (c.sendUnreliable env now data).outs = [] ∧
    (c.sendUnreliable env now data).err = some .closed := by
  unfold Conn.sendUnreliable
  rw [if_pos (by rw [h]; decide)]
  exact ⟨rfl, rfl, rfl⟩

/-- `close` on a DISCONNECTED connection returns at once: nothing changes, nothing goes out, no error -/
theorem closed_close (env : Env) (now : Time) (c : Conn) (h : c.state = STATE_DISCONNECTED) :
    (c.close env now).c = c ∧ (c.close env now).outs = [] ∧ (c.close env now).err = none := by
  unfold Conn.close; rw [if_pos h]; exact ⟨rfl, rfl, rfl⟩

/-- `disconnect` on a DISCONNECTED connection returns at once: nothing changes, nothing goes out -/
theorem closed_disconnect (env : Env) (now : Time) (c : Conn) (h : c.state = STATE_DISCONNECTED) :
    (c.disconnect env now).c = c ∧ (c.disconnect env now).outs = [] := by
  unfold Conn.disconnect; rw [if_pos (by rw [h]; decide)]; exact ⟨rfl, rfl⟩

/-- a DISCONNECTED connection ignores every datagram: nothing changes, nothing goes out, no error (`C04.closed_ignores`) -/
theorem closed_ignores_traffic (env : Env) (now : Time) (c : Conn) (p : Packet) (h : c.state = STATE_DISCONNECTED) :
    (c.handle env now p).inert c ∧ (c.handle env now p).err = none :=
  Nx.C04.closed_ignores env now c p h

/-- released stays released while time passes (no timer can fire any more) -/
theorem released_is_stable (env : Env) (fuel : Nat) (T : Time) (c : Conn) (h : c.Released) (hs : c.sched.isSome) :
    (Conn.advance env fuel T c).1 = c :=
  released_stable_advance env fuel T c h

/-- **the silence bound**: for EVERY state in which some timer's chain runs out by `D` (`Conn.Doomed`), however many other timers
    are in flight and whatever they do when they fire (retransmit, re-arm, raise, find the link down): if `advance` to a `T ≥ D`
    (timers fire, no datagram is heard) ends with nothing due at `T` (`hset`, which `advance_settles` gives for enough fuel;
    `silence_bound_total` is the statement without it), the connection is `Dead` -/
theorem silence_bound (env : Env) (fuel T D : Nat) (c : Conn) (h : c.Doomed D) (hT : D ≤ T)
    (hset : (Conn.advance env fuel T c).1.Settled T) : (Conn.advance env fuel T c).1.Dead :=
  L1.silence_bound env fuel T D c h hT hset

/-- doomed stays doomed (by the same instant) while only timers fire -/
theorem doomed_is_stable (env : Env) (T D fuel : Nat) (c : Conn) (h : c.Doomed D) : (Conn.advance env fuel T c).1.Doomed D :=
  advance_doomed env T D fuel c h

/-- `Dead` is what the waiters look at: state, EOF on the queues, both events -/
theorem dead_releases (c : Conn) (h : c.Dead) :
    c.state = STATE_DISCONNECTED ∧ c.eof = true ∧ c.handshakeEvent = true ∧ c.closeEvent = true := h

/-- a server-side connection is doomed from the moment it is accepted: keep-alive at `now + ping_timeout`, then the chain -/
theorem served_is_doomed (c : Conn) (now : Time) :
    (c.serve now).Doomed (now + c.pingTimeout + (c.resendLimit + 1) * c.resendTimeout) :=
  Or.inr ⟨⟨0, now + c.pingTimeout, some c.pingTimeout, .ping⟩, evs_serve c now ▸ List.mem_singleton_self _, Nat.le_refl _⟩

/-- a client connection is doomed from the moment `connect` returns -/
theorem connected_is_doomed (c : Conn) (now : Time) (h1 : c.waitingHandshake = true) (h2 : c.handshakeEvent = true)
    (h3 : c.state = STATE_CONNECTED) (h4 : c.sched.isSome) :
    (c.resumeHandshake now).c.Doomed (now + c.pingTimeout + (c.resendLimit + 1) * c.resendTimeout) := by
  obtain ⟨s, hs⟩ := Option.isSome_iff_exists.mp h4
  rw [resumeHandshake_connected c now s h1 h2 h3 hs]
  exact Or.inr ⟨⟨s.nextHandle, now + c.pingTimeout, some c.pingTimeout, .ping⟩,
    List.mem_append_right _ (List.mem_singleton_self _), Nat.le_refl _⟩

/-- `send_packet` at `now` of anything that wants an acknowledgement (`hp`: DATA, DISCONNECT, PING, SYN, CONNECT), on a connection
    with a scheduler: the call raised, or the connection is `Doomed` by `now + (resend_limit+1)·resend_timeout` -/
theorem unacked_is_doomed (env : Env) (now : Nat) (c : Conn) (p : Packet) (hs : c.sched.isSome)
    (hp : ((hasReliable p.flags || p.type == TYPE_SYN) && hasNeedAck p.flags) = true) :
    (c.sendPacket env now p).err.isSome ∨ (c.sendPacket env now p).c.Doomed (now + (c.resendLimit + 1) * c.resendTimeout) :=
  sendPacket_doomed env now c p hs hp

/-- every keep-alive that fires at `d` (re-)establishes the bound `d + (resend_limit+1)·resend_timeout` -/
theorem keepalive_rearms (env : Env) (d : Nat) (c : Conn) (hs : c.sched.isSome) :
    (c.fireOne env d .ping).c.Doomed (d + (c.resendLimit + 1) * c.resendTimeout) :=
  fireOne_doomed env c ⟨0, d, none, .ping⟩ hs

/-- `serve()` arms the keep-alive, due at `now + ping_timeout`; the acknowledgement table of a fresh server-side connection is
    empty, so nothing can cancel it -/
theorem served_has_keepalive (c : Conn) (now : Time) (h : c.ackEvents = []) : (c.serve now).KA (now + c.pingTimeout) := by
  refine Or.inr ⟨⟨0, now + c.pingTimeout, some c.pingTimeout, .ping⟩,
    ⟨evs_serve c now ▸ List.mem_singleton_self _, fun e he => ?_, fun s hs => ?_⟩, rfl, rfl, Nat.le_refl _⟩
  · rw [show (c.serve now).ackEvents = [] from h] at he; cases he
  · cases hs; exact Nat.zero_lt_one

/-- when `handshake()` has sent its SYN, every handle in the acknowledgement table was handed out by the scheduler (`AWF`):
    the keep-alive armed later gets a handle no entry holds -/
theorem handshake_handles_wf (env : Env) (now : Time) (c : Conn) (creds : Option Creds) (h : c.ackEvents = []) :
    AWF (c.handshake env now creds).c := by
  apply AWF.steps (sendPacket_steps env now _ _ rfl)
  intro s hs e he
  cases creds <;> simp [Conn.login, h] at he

/-- `AWF` is kept by every datagram handled, so it still holds when the handshake resumes -/
theorem handles_wf_survives_traffic (env : Env) (now : Time) (c : Conn) (p : Packet) (h : AWF c) : AWF (c.handle env now p).c :=
  AWF.steps (handle_steps env now c p) h

/-- the resumed `handshake()` of a client arms the keep-alive, due at `now + ping_timeout`, under a new handle -/
theorem connected_has_keepalive (c : Conn) (now : Time) (h1 : c.waitingHandshake = true) (h2 : c.handshakeEvent = true)
    (h3 : c.state = STATE_CONNECTED) (h4 : c.sched.isSome) (hw : AWF c) :
    (c.resumeHandshake now).c.KA (now + c.pingTimeout) := by
  obtain ⟨s, hs⟩ := Option.isSome_iff_exists.mp h4
  rw [resumeHandshake_connected c now s h1 h2 h3 hs]
  refine Or.inr ⟨⟨s.nextHandle, now + c.pingTimeout, some c.pingTimeout, .ping⟩,
    ⟨List.mem_append_right _ (List.mem_singleton_self _), fun e he => Nat.ne_of_lt (hw s hs e he), fun s' hs' => ?_⟩,
    rfl, rfl, Nat.le_refl _⟩
  cases hs'; exact Nat.lt_succ_self _

/-- **the keep-alive survives** every datagram handled, genuine or forged: an acknowledgement of whatever kind cancels only timers
    whose handle the acknowledgement table holds, and `KA` says that no entry holds the keep-alive's -/
theorem keepalive_survives_traffic (env : Env) (now : Time) (c : Conn) (p : Packet) (P : Nat) (h : c.KA P) :
    (c.handle env now p).c.KA P :=
  Conn.KA.steps (handle_steps env now c p) h

/-- `KA` is kept by `send` (of the elementary updates only `cleanup` removes the keep-alive, and it leaves `Dead`) -/
theorem keepalive_survives_send (env : Env) (now : Time) (c : Conn) (data : Bytes) (sub : Nat) (P : Nat) (h : c.KA P) :
    (c.send env now data sub).c.KA P := Conn.KA.steps (send_steps env now c data sub) h

/-- `KA` is kept by `send_unreliable` -/
theorem keepalive_survives_send_unreliable (env : Env) (now : Time) (c : Conn) (data : Bytes) (P : Nat) (h : c.KA P) :
    (c.sendUnreliable env now data).c.KA P := Conn.KA.steps (sendUnreliable_steps env now c data) h

/-- `KA` is kept by `disconnect` -/
theorem keepalive_survives_disconnect (env : Env) (now : Time) (c : Conn) (P : Nat) (h : c.KA P) :
    (c.disconnect env now).c.KA P :=
  Conn.KA.steps (disconnect_steps env now c) h

/-- `KA` is kept by `close` -/
theorem keepalive_survives_close (env : Env) (now : Time) (c : Conn) (P : Nat) (h : c.KA P) :
    (c.close env now).c.KA P :=
  Conn.KA.steps (close_steps env now c) h

/-- `KA` while the clock moves to `T`, whatever fires: a keep-alive that fires comes back one period later, so one is due by
    `T + ping_timeout` at the latest (or by `P`, if that is later) -/
theorem keepalive_while_time_passes (env : Env) (T fuel : Nat) (c : Conn) (P : Nat) (h : c.KA P) :
    (Conn.advance env fuel T c).1.KA (max P (T + c.pingTimeout)) := by
  rw [← advance_pt env T fuel c]
  refine advance_invariant env T (fun x => x.KA (max P (T + x.pingTimeout))) (fun x s d hs _ hle hk => ?_) fuel c
    (h.mono (Nat.le_max_left _ _))
  rw [(round_steps env x s d).fixed.pt]
  exact ka_round env x s d _ hs (Nat.le_trans (Nat.add_le_add_right hle _) (Nat.le_max_right _ _)) hk

/-- **the property's bound for an established connection**, from any instant `s` after which nothing is heard: whatever the
    connection has been through, if a keep-alive is due by `s + ping_timeout` (`KA`) and `advance` to a `T` at or past
    `s + ping_timeout + (resend_limit+1)·resend_timeout` ends with nothing due at `T` (`hset`, as in `silence_bound`), it is `Dead` -/
theorem established_silence_bound (env : Env) (fuel T s : Nat) (c : Conn) (h : c.KA (s + c.pingTimeout))
    (hT : s + c.pingTimeout + (c.resendLimit + 1) * c.resendTimeout ≤ T)
    (hset : (Conn.advance env fuel T c).1.Settled T) : (Conn.advance env fuel T c).1.Dead :=
  L1.silence_bound env fuel T _ c (ka_doomed c _ h) hT hset

/-- `advance` settles: with a positive resend period and positive repeat periods every firing round moves the earliest deadline
    strictly forward, so with nothing due before `lo` a fuel of `T + 1 - lo` rounds reaches a state with nothing due at `T` -/
theorem advance_settles (env : Env) (T fuel : Nat) (c : Conn) (lo : Nat) (hrt : 0 < c.resendTimeout) (hrp : RepPos c)
    (hlo : ∀ t ∈ evs c, lo ≤ t.deadline) (hf : T + 1 ≤ lo + fuel) : (Conn.advance env fuel T c).1.Settled T :=
  L1.advance_settles env T fuel c lo hrt hrp hlo hf

/-- the silence bound without the `Settled` hypothesis: `T + 1` rounds of `advance` are enough -/
theorem silence_bound_total (env : Env) (T D : Nat) (c : Conn) (h : c.Doomed D) (hT : D ≤ T)
    (hrt : 0 < c.resendTimeout) (hrp : RepPos c) : (Conn.advance env (T + 1) T c).1.Dead :=
  L1.silence_bound_total env T D c h hT hrt hrp

/-- a server-side connection that never hears anything after it was accepted at `now` is dead by
    `now + ping_timeout + (resend_limit+1)·resend_timeout` — no hypothesis about the run, only positive resend and ping timeouts -/
theorem accepted_connection_dies_in_silence (env : Env) (c : Conn) (now : Time) (T : Nat)
    (hrt : 0 < c.resendTimeout) (hpt : 0 < c.pingTimeout)
    (hT : now + c.pingTimeout + (c.resendLimit + 1) * c.resendTimeout ≤ T) :
    (Conn.advance env (T + 1) T (c.serve now)).1.Dead :=
  L1.silence_bound_total env T _ (c.serve now) (served_is_doomed c now) hT hrt (serve_reppos c now hpt)

/-! non-vacuity of `connect_bound`: a fresh client after `handshake()` meets `OnlyResend` (its SYN, count 0, due at `resend_timeout`)
and has its link up -/
example :
    let c := Conn.new C04.toyEnv (some 1) 1 2 3 ("10.0.0.2", 1) 15 10 ("10.0.0.1", 2) 1 10
    ((c.handshake C04.toyEnv 0 none).c.OnlyResend
        { type := 0, flags := 4, version := some 1, sourceType := 10, sourcePort := 15, destType := 10, destPort := 1,
          connectionSignature := some (List.replicate 16 0), signature := some [0] } 0 (0 + c.resendTimeout)) ∧
    (c.handshake C04.toyEnv 0 none).c.linkUp = true := by
  refine ⟨⟨1, 0, ?_⟩, rfl⟩
  decide +kernel

/-! non-vacuity of `silence_bound`: an accepted connection that hears nothing — the run settles and the hypothesis holds -/
example :
    let c := (Conn.new C04.toyEnv (some 1) 1 2 3 ("10.0.0.2", 1) 15 10 ("10.0.0.1", 2) 1 10).serve 0
    let D := 0 + c.pingTimeout + (c.resendLimit + 1) * c.resendTimeout
    (Conn.advance C04.toyEnv 64 D c).1.Settled D ∧ (Conn.advance C04.toyEnv 64 D c).1.state = STATE_DISCONNECTED := by decide +kernel

/-! ## the same address can connect again: the local ports of a long-lived transport (`PRUDPPortTable`)

`PRUDPClientTransport.connect` / `PRUDPServerTransport.serve` run inside `with self.ports.bind(...)`. Model:
`NxModel/Prudp/C02Ports.lean`; tie: harness/c02_ports_tie.py (generated obligations: the real table and the model agree on sequences of
blocks left normally / by an exception / by cancellation) and harness/c02_reuse.py (20..40 real connections on one transport). -/

/-- however the connections of ONE transport end (returned, raised, cancelled — e.g. failed handshake, EndOfStream or an
    application exception leaving the block), any number of them one after the other leaves the port table as it was, and every
    one of them is given the local port it would be given as the first: the port table never runs out -/
theorem transport_reuse (t : Prudp.Ports.Table) (sessions : List (Option Nat × Nat × Prudp.Ports.Exit)) :
    (t.blocks sessions).1 = t ∧
    (t.blocks sessions).2 = sessions.map (fun b => (t.block b.1 b.2.1 b.2.2).2) := by
  rw [Prudp.Ports.blocks_eq]; exact ⟨rfl, rfl⟩

/-- on a transport with nothing bound and `n+1` ports, the k-th connection — after any history of endings — is given what `bind`
    yields for port `n`: the low byte of its key, `key n type &&& 0xFF` (the 16 or 32 ports of a real transport fit in that byte) -/
theorem transport_reuse_fresh (n type : Nat) (hows : List Prudp.Ports.Exit) :
    ((Prudp.Ports.Table.mk (n + 1) []).blocks (hows.map (fun h => (none, type, h)))).2 = hows.map (fun _ => some (Prudp.Ports.key n type &&& 0xFF)) := by
  rw [Prudp.Ports.blocks_eq]
  simp [List.map_map, Function.comp_def, Prudp.Ports.Table.block, Prudp.Ports.Table.enter, Prudp.Ports.allocate_empty,
        bind, Except.bind, pure, Except.pure]

/-- a `transport.serve(handler, port, type)` block left in any way allows the same virtual port to be served again -/
theorem serve_again (t : Prudp.Ports.Table) (port type : Nat) (how how' : Prudp.Ports.Exit) :
    ((t.block (some port) type how).1.block (some port) type how').2 = (t.block (some port) type how).2 := by
  rw [Prudp.Ports.block_restores]
  exact Prudp.Ports.block_yield_indep t (some port) type how' how

/-! `transport_reuse` / `transport_reuse_fresh` computed: 40 connections on a UDP transport (16 ports) all ending abnormally: each gets
port 15, nothing stays bound -/
example : ((Prudp.Ports.Table.mk 16 []).blocks (List.replicate 40 (none, 10, .raised))) = (Prudp.Ports.Table.mk 16 [], List.replicate 40 (some 15)) := by
  decide +kernel

/-- counterexample of the defective variant (the key released only on a normal return): after 16 abnormal endings a UDP
    transport (16 ports) cannot connect any more -/
theorem leaky_bind_counterexample :
    ((Prudp.Ports.Table.mk 16 []).blocksLeaky (List.replicate 16 (none, 10, .raised) ++ [(none, 10, .returned)])).2.getLast? = some none := by
  decide +kernel

end Nx.C02
