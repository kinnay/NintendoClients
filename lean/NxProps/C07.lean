import NxProofs.Frame
import NxProofs.Gating
/-!
# C07 — malformed or hostile traffic cannot crash a transport or disturb other peers

Model: L1 transports (`ServerT.processData` = `PRUDPServerTransport.process_data`: decode, dispatch over the port
table, `except Exception` barrier). `processData` is a total Lean function (no `partial`): whatever the bytes, it
returns the new transport state, the outputs and the swallowed exception — the receive loop has no other exit.
`ServerT.conn t pk k` = the connection with remote key `k = (addr, port, type)` on the stream bound at `pk`.

Work bound: an iteration of the v0 / v1 decode loop consumes ≥ 10 / ≥ 30 bytes (`Nx.C03.v0_decode_progress`,
`v1_decode_progress`), and the lite loop goes on only behind a whole packet — 12 header bytes at least — taken off the buffer
(`liteLoop_sized`; C03 states no byte bound for lite); so a read of n bytes yields at most n/10+1 packets and as many dispatches.
-/
namespace Nx.C07
open Nx.Prudp Nx.L1

/-- **frame theorem**: bytes from `addr` — valid, malformed or hostile — leave every connection of every other remote
    address, on every virtual port, exactly as it was -/
theorem frame_other_addr (env : Env) (now : Time) (rnd : Rnd) (t : ServerT) (data : Bytes) (addr : Addr)
    (pk : Nat) (k : ClientKey) (hk : k.1 ≠ addr) :
    (t.processData env now rnd data addr).t.conn pk k = t.conn pk k :=
  processData_frame env now rnd t data addr pk k hk

/-- a packet from `addr` handed to a stream leaves that stream's connections of every other remote address as they were (that
    only the entry under (`addr`, source port, source type) is written: `handle_frame_key`) -/
theorem deliver_only_addressed (env : Env) (now : Time) (rnd : Rnd) (up : Bool) (s : ServerStream) (p : Packet) (addr : Addr) :
    SameOthers addr (s.handle env now rnd up p addr).s s :=
  handle_frame env now rnd up s p addr

/-- undecodable data changes no stream and sends nothing -/
theorem undecodable_changes_nothing (env : Env) (now : Time) (rnd : Rnd) (t : ServerT) (data : Bytes) (addr : Addr) (e : Err)
    (h : (decode env.cfg (if t.isStream = true then bufLookup addr t.liteBufs else t.liteBuf) data).1 = .error e) :
    (t.processData env now rnd data addr).t.streams = t.streams ∧ (t.processData env now rnd data addr).outs = [] := by
  unfold ServerT.processData
  simp only [h]
  cases t.isStream <;> simp

/-- stream transports: what one stream connection sends never touches the reassembly buffer of another connection
    (false for the original code, which shared one buffer: DESIGN §6 D4, repaired in repo commit 033af42) -/
theorem frame_other_stream (env : Env) (now : Time) (rnd : Rnd) (t : ServerT) (data : Bytes) (addr other : Addr)
    (hs : t.isStream = true) (hne : other ≠ addr) :
    bufLookup other (t.processData env now rnd data addr).t.liteBufs = bufLookup other t.liteBufs :=
  processData_frame_buffers env now rnd t data addr other hs hne

/-- traffic for a port that is not bound creates no state and is answered by nothing -/
theorem unknown_port_creates_nothing (env : Env) (now : Time) (rnd : Rnd) (addr : Addr) (p : Packet) (ps : List Packet) (t : ServerT)
    (h : streamLookup (portKey p.destPort p.destType) t.streams = none) :
    (ServerT.dispatch env now rnd addr (p :: ps) t).t = t ∧ (ServerT.dispatch env now rnd addr (p :: ps) t).outs = [] ∧
    (ServerT.dispatch env now rnd addr (p :: ps) t).err = some .value := by
  unfold ServerT.dispatch
  simp only [h]
  exact ⟨trivial, trivial, trivial⟩

/-- traffic from a peer the server does not know (other than a SYN / CONNECT request) creates no state -/
theorem unknown_peer_creates_nothing (env : Env) (now : Time) (rnd : Rnd) (up : Bool) (s : ServerStream) (p : Packet) (addr : Addr)
    (h1 : ¬ (p.type = TYPE_SYN ∧ (!hasAck p.flags) = true)) (h2 : ¬ (p.type = TYPE_CONNECT ∧ (!hasAck p.flags) = true))
    (h : clientLookup (addr, p.sourcePort, p.sourceType) s.clients = none) :
    (s.handle env now rnd up p addr).s = s ∧ (s.handle env now rnd up p addr).outs = [] ∧ (s.handle env now rnd up p addr).err = none :=
  server_unknown_peer env now rnd up s p addr h1 h2 h

/-- a SYN from anyone is answered statelessly -/
theorem syn_is_stateless (env : Env) (s : ServerStream) (p : Packet) (addr : Addr) : (s.processSyn env p addr).s = s :=
  server_syn_stateless env s p addr

/-- one datagram (or stream chunk) as the transport's receive loop sees it -/
structure Rx where
  now : Time
  rnd : Rnd
  data : Bytes
  addr : Addr

/-- the receive loop over a history of reads: each goes through `process_data` (which swallows whatever is raised) -/
def feed (env : Env) (t : ServerT) (h : List Rx) : ServerT :=
  h.foldl (fun t x => (t.processData env x.now x.rnd x.data x.addr).t) t

/-- **any history of traffic from other addresses** — any number of reads, valid, malformed or hostile, at any times, with
    any random draws — leaves a connection exactly as it was (state, timers, windows, queues: the whole `Conn`) -/
theorem hostile_history_frame (env : Env) (pk : Nat) (k : ClientKey) : ∀ (h : List Rx) (t : ServerT),
    (∀ x ∈ h, x.addr ≠ k.1) → (feed env t h).conn pk k = t.conn pk k := fun h t hall =>
  List.foldlRecOn h _ (motive := fun t' => t'.conn pk k = t.conn pk k) rfl fun t' ht x hx =>
    (frame_other_addr env x.now x.rnd t' x.data x.addr pk k fun e => hall x hx e.symm).trans ht

/-- … and on a stream transport any such history leaves the reassembly buffer of `other` exactly as it was -/
theorem hostile_history_frame_buffers (env : Env) (other : Addr) : ∀ (h : List Rx) (t : ServerT),
    t.isStream = true → (∀ x ∈ h, x.addr ≠ other) →
    bufLookup other (feed env t h).liteBufs = bufLookup other t.liteBufs ∧ (feed env t h).isStream = true := fun h t hs hall =>
  List.foldlRecOn h _ (motive := fun t' => bufLookup other t'.liteBufs = bufLookup other t.liteBufs ∧ t'.isStream = true) ⟨rfl, hs⟩
    fun t' ht x hx =>
      ⟨(frame_other_stream env x.now x.rnd t' x.data x.addr other ht.2 fun e => hall x hx e.symm).trans ht.1,
        (processData_isStream ..).trans ht.2⟩

/-- **a SYN/ACK from anybody, at any time after the handshake, changes nothing**: a SYN packet handed to a CONNECTED client
    connection that has no SYN waiting for its acknowledgement (its SYN was acknowledged: the handshake is over) — late, duplicated
    or crafted, with any parameters and any connection signature — leaves the connection exactly as it was: negotiated
    parameters, the peer's signature, counters, timers, everything. -/
theorem late_synack_changes_nothing (env : Env) (now : Time) (c : Conn) (p : Packet) (hp : p.type = TYPE_SYN)
    (hst : c.state = STATE_CONNECTED) (hno : ∀ e ∈ c.ackEvents, e.1.1 ≠ TYPE_SYN) : (c.handle env now p).c = c :=
  late_syn_inert env now c p hp hst hno

/-- … and a CONNECT packet (a late, duplicated or crafted CONNECT/ACK, or a CONNECT request) handed to a client connection that
    has no CONNECT waiting for its acknowledgement changes nothing either, in any state -/
theorem late_connect_changes_nothing (env : Env) (now : Time) (c : Conn) (p : Packet) (hp : p.type = TYPE_CONNECT)
    (hno : ∀ e ∈ c.ackEvents, e.1.1 ≠ TYPE_CONNECT) : (c.handle env now p).c = c :=
  late_connect_inert env now c p hp hno

/-! `ServerT.conn` at a bound port and a peer the stream does not know is `none`; for such a key `frame_other_addr` says that
    bytes from other addresses register no connection. (The frame theorems have no hypothesis but `k.1 ≠ addr`.) -/
example : ServerT.conn { streams := [(portKey 1 10, { key := none, supFuncs := 0, maxSub := 0, minorVer := 0, addr := ("s", 1), port := 1, type := 10 })] }
    (portKey 1 10) (("a", 2), 15, 10) = none := by decide

end Nx.C07
