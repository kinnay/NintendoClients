import NxProofs.NexStreams
import NxProofs.NexCommon
import NxProofs.NexErrors
import NxProofs.NexDateTime
import NxProofs.C15Zone
import NxProofs.NexStationURL
import NxProofs.NexStationURLInt
import NxProofs.NexObjWalk
import NxProofs.NexHolderPoly
/-!
# C15 — NEX value encodings are lossless

Models: `NxModel/Nex/Streams.lean` (stream primitives), `Common.lean` (Result, Structure levels, DataHolder),
`Errors.lean` (code ↔ name table), `DateTime.lean`, `C15Zone.lean` (zones whose rules changed), `StationURL.lean`,
`ObjWalk.lean` (one object through a sequence of operations), `HolderPoly.lean` (holders over a class hierarchy and
a registry).

Every round trip has the exact-consumption form: if the writer succeeds with bytes `b` (it fails exactly
where `struct.pack` raises — see the `…_writable_iff` theorems), the reader applied to `b ++ rest` returns the
value and leaves exactly `rest`, for every `rest`.

Calendar: the two conversions are mutually inverse (`civil_roundtrip`, `civil_roundtrip_inverse`), hence
DateTime → Unix → DateTime needs no hypothesis (`datetime_to_unix_and_back`); Unix → DateTime → Unix needs one and the
code has a genuine counterexample (`datetime_unix_partial`, `datetime_unix_counterexample`). That the Lean calendar is
CPython's is NOT proved (compared day by day by the harness). StationURL: typed `getitem` after `parse (repr u)` covers
int-valued parameters too (`stationurl_typed_access_roundtrip`, through `int(str(n)) = n` for the modelled `int()`,
`stationurl_int_of_str`).
-/
namespace Nx.C15
open Nx.Nex

/-! ## strings: absent ↔ `u16 0`, `""` ↔ `01 00 00`, any Unicode scalar sequence of ≤ 65534 UTF-8 bytes -/

theorem string_roundtrip {s : Option String} {b : Bytes} (h : wString s = .ok b) (rest : Bytes) :
    rString (b ++ rest) = .ok (s, rest) := rString_wString h rest

/-- writing succeeds exactly for strings whose UTF-8 form has at most 65534 bytes -/
theorem string_writable_iff (s : String) : (∃ b, wString (some s) = .ok b) ↔ (utf8Enc s.toList).length ≤ 65534 :=
  wString_ok_iff s

example : wString none = .ok [0, 0] := by decide +kernel
example : wString (some "") = .ok [1, 0, 0] := by decide +kernel
example : rString [1, 0, 0, 7] = .ok (some "", [7]) := by decide +kernel
example : rString [0, 0, 7] = .ok (none, [7]) := by decide +kernel

/-! ## buffers -/

theorem buffer_roundtrip {d b : Bytes} (h : wBuffer d = .ok b) (rest : Bytes) : rBuffer (b ++ rest) = .ok (d, rest) :=
  rBuffer_wBuffer h rest

theorem qbuffer_roundtrip {d b : Bytes} (h : wQBuffer d = .ok b) (rest : Bytes) : rQBuffer (b ++ rest) = .ok (d, rest) := by
  obtain ⟨l, hl, rfl⟩ := bind_pure_ok h
  simp only [rQBuffer, List.append_assoc, rdU16_wU16 hl, bind, Except.bind, rd_append]

theorem buffer_writable_iff (d : Bytes) : (∃ b, wBuffer d = .ok b) ↔ d.length < 4294967296 :=
  ⟨fun ⟨_, h⟩ => (wBuffer_eq_ok.mp h).1, fun h => ⟨_, wBuffer_eq_ok.mpr ⟨h, rfl⟩⟩⟩

/-! ## integers of each width, booleans, doubles (as 64-bit patterns: NaN payloads and infinities included) -/

theorem u8_roundtrip {n : Nat} {b : Bytes} (h : wU8 n = .ok b) (rest : Bytes) : rdU8 (b ++ rest) = .ok (n, rest) := rdU8_wU8 h rest
theorem u16_roundtrip {n : Nat} {b : Bytes} (h : wU16 n = .ok b) (rest : Bytes) : rdU16 (b ++ rest) = .ok (n, rest) := rdU16_wU16 h rest
theorem u32_roundtrip {n : Nat} {b : Bytes} (h : wU32 n = .ok b) (rest : Bytes) : rdU32 (b ++ rest) = .ok (n, rest) := rdU32_wU32 h rest
theorem u64_roundtrip {n : Nat} {b : Bytes} (h : wU64 n = .ok b) (rest : Bytes) : rdU64 (b ++ rest) = .ok (n, rest) := rdU64_wU64 h rest
theorem s8_roundtrip {v : Int} {b : Bytes} (h : wS8 v = .ok b) (rest : Bytes) : rS8 (b ++ rest) = .ok (v, rest) :=
  rS_wS (bits := 8) (by decide) rdU8_u8 h rest
theorem s16_roundtrip {v : Int} {b : Bytes} (h : wS16 v = .ok b) (rest : Bytes) : rS16 (b ++ rest) = .ok (v, rest) :=
  rS_wS (bits := 16) (by decide) rdU16_u16le h rest
theorem s32_roundtrip {v : Int} {b : Bytes} (h : wS32 v = .ok b) (rest : Bytes) : rS32 (b ++ rest) = .ok (v, rest) :=
  rS_wS (bits := 32) (by decide) rdU32_u32le h rest
theorem s64_roundtrip {v : Int} {b : Bytes} (h : wS64 v = .ok b) (rest : Bytes) : rS64 (b ++ rest) = .ok (v, rest) := rS64_wS64 h rest
theorem bool_roundtrip {v : Bool} {b : Bytes} (h : wBool v = .ok b) (rest : Bytes) : rBool (b ++ rest) = .ok (v, rest) := rBool_wBool h rest
theorem double_roundtrip {bits : Nat} {b : Bytes} (h : wDouble bits = .ok b) (rest : Bytes) : rDouble (b ++ rest) = .ok (bits, rest) :=
  rDouble_wDouble h rest

theorem u64_writable_iff (n : Nat) : (∃ b, wU64 n = .ok b) ↔ n < 18446744073709551616 := wU64_ok_iff n
theorem s64_writable_iff (v : Int) : (∃ b, wS64 v = .ok b) ↔ (-9223372036854775808 ≤ v ∧ v < 9223372036854775808) :=
  guard_ok_iff.trans inS_iff

example : ∃ b, wDouble 0x7FF8000000000001 = .ok b := ⟨_, rfl⟩   -- a NaN with payload
example : ∃ b, wS64 (-9223372036854775808) = .ok b := (s64_writable_iff _).mpr (by omega)

/-! ## lists and maps (elements / keys / values of any type that round-trips; nesting by instantiation) -/

theorem list_roundtrip {α : Type} (f : α → Except Err Bytes) (rdr : Bytes → Except Err (α × Bytes)) (l : List α)
    (helem : ∀ x ∈ l, ∀ b rest, f x = .ok b → rdr (b ++ rest) = .ok (x, rest))
    {b : Bytes} (h : wList f l = .ok b) (rest : Bytes) : rList rdr (b ++ rest) = .ok (l, rest) := by
  obtain ⟨n, hn, h⟩ := bind_ok h
  obtain ⟨r, hr, rfl⟩ := bind_pure_ok h
  simp only [rList, List.append_assoc, rdU32_wU32 hn, bind, Except.bind]
  exact rRepeat_wRepeat f rdr l helem r rest hr

/-- a map with pairwise distinct keys (a Python dict) is read back equal, in the same order -/
theorem map_roundtrip {κ ν : Type} [BEq κ] [LawfulBEq κ]
    (kf : κ → Except Err Bytes) (vf : ν → Except Err Bytes)
    (rk : Bytes → Except Err (κ × Bytes)) (rv : Bytes → Except Err (ν × Bytes)) (m : List (κ × ν))
    (hk : ∀ e ∈ m, ∀ b rest, kf e.1 = .ok b → rk (b ++ rest) = .ok (e.1, rest))
    (hv : ∀ e ∈ m, ∀ b rest, vf e.2 = .ok b → rv (b ++ rest) = .ok (e.2, rest))
    (hdistinct : (m.map (·.1)).Nodup) {b : Bytes} (h : wMap kf vf m = .ok b) (rest : Bytes) :
    rMap rk rv (b ++ rest) = .ok (m, rest) := by
  rw [rMap_wMap_dict kf vf rk rv m hk hv h rest, foldl_dictInsert (·.1) (·.2) m [] hdistinct (by simp)]
  simp

/-- instance: a list of lists of strings (nesting composes) -/
theorem nested_list_roundtrip (l : List (List (Option String))) {b : Bytes} (h : wList (wList wString) l = .ok b) (rest : Bytes) :
    rList (rList rString) (b ++ rest) = .ok (l, rest) :=
  list_roundtrip _ _ l (fun x _ _ r hx => list_roundtrip wString rString x (fun _ _ _ r' hs => rString_wString hs r') hx r) h rest

example : wMap wU8 wU16 [(1, 2), (3, 4)] = .ok [2, 0, 0, 0, 1, 2, 0, 3, 4, 0] := by decide +kernel
example : rMap (κ := Nat) rdU8 rdU16 [2, 0, 0, 0, 1, 2, 0, 1, 4, 0] = .ok ([(1, 4)], []) := by decide +kernel  -- a repeated key collapses

/-! ## variants of every tag -/

theorem variant_roundtrip {v : Variant} {b : Bytes} (h : wVariant v = .ok b) (rest : Bytes) :
    rVariant (b ++ rest) = .ok (v, rest) := rVariant_wVariant h rest

/-- tag per kind: none 0, negative int 1, double 2, bool 3, string 4, datetime 5, non-negative int 6 -/
theorem variant_tag {v : Variant} {b : Bytes} (h : wVariant v = .ok b) :
    b.head? = some (match v with
      | .none => 0 | .int x => if x < 0 then 1 else 6 | .double _ => 2 | .bool _ => 3 | .str _ => 4 | .datetime _ => 5) := by
  cases v with
  | none => cases h; rfl
  | int x =>
    by_cases hneg : x < 0
    · rw [wVariant, if_pos hneg] at h
      obtain ⟨r, _, rfl⟩ := bind_pure_ok h
      simp only [if_pos hneg]; rfl
    · rw [wVariant, if_neg hneg] at h
      obtain ⟨r, _, rfl⟩ := bind_pure_ok h
      simp only [if_neg hneg]; rfl
  | bool x => obtain ⟨r, _, rfl⟩ := bind_pure_ok h; rfl
  | double x => obtain ⟨r, _, rfl⟩ := bind_pure_ok h; rfl
  | str x => obtain ⟨r, _, rfl⟩ := bind_pure_ok h; rfl
  | datetime x => obtain ⟨r, _, rfl⟩ := bind_pure_ok h; rfl

example : wVariant (.int (-2)) = .ok [1, 0xFE, 0xFF, 0xFF, 0xFF, 0xFF, 0xFF, 0xFF, 0xFF] := by decide +kernel
example : wVariant (.int 2) = .ok [6, 2, 0, 0, 0, 0, 0, 0, 0] := by decide +kernel
example : rVariant [4, 0, 0] = .ok (.none, []) := by decide +kernel   -- an absent string inside a variant reads as None (not a written value)

/-! ## result, pid (both widths), datetime on the wire -/

theorem result_roundtrip {code : Nat} {b : Bytes} (h : wResult code = .ok b) (rest : Bytes) : rResult (b ++ rest) = .ok (code, rest) :=
  rdU32_wU32 h rest

theorem pid_roundtrip (pidSize : Nat) {v : Nat} {b : Bytes} (h : wPid pidSize v = .ok b) (rest : Bytes) :
    rPid pidSize (b ++ rest) = .ok (v, rest) := rPid_wPid pidSize h rest

theorem pid_writable_iff (pidSize v : Nat) :
    (∃ b, wPid pidSize v = .ok b) ↔ v < (if pidSize = 8 then 18446744073709551616 else 4294967296) := by
  unfold wPid; split
  · exact wU64_ok_iff v
  · exact wU32_ok_iff v

theorem datetime_roundtrip {v : Nat} {b : Bytes} (h : wDateTime v = .ok b) (rest : Bytes) : rDateTime (b ++ rest) = .ok (v, rest) :=
  rDateTime_wDateTime h rest

example : wPid 4 4294967295 = .ok [255, 255, 255, 255] := by decide +kernel
example : wPid 8 4294967296 = .ok [0, 0, 0, 0, 1, 0, 0, 0] := by decide +kernel

/-! ## polymorphic data holders and Structure levels -/

theorem anydata_roundtrip {name : Option String} {payload b : Bytes} (h : wAnyData name payload = .ok b) (rest : Bytes) :
    rAnyData (b ++ rest) = .ok ((name, payload), rest) := rAnyData_wAnyData h rest

/-- one class of a Structure hierarchy, with or without the version+length header, given the class's own
`load` inverts its `save` (`body`); with a header the saved version is handed to `load` -/
theorem structure_level_roundtrip {α : Type} (header : Bool) (version : Nat) (body : Bytes)
    (load : Nat → Bytes → Except Err (α × Bytes)) (x : α)
    (hload : ∀ rest, load (if header then version else 0) (body ++ rest) = .ok (x, rest))
    {b : Bytes} (h : wStructLevel header version body = .ok b) (rest : Bytes) :
    rStructLevel header load (b ++ rest) = .ok (x, rest) :=
  rStructLevel_wStructLevel header version body load x hload h rest

example : wAnyData (some "NullData") [0, 0, 0, 0, 0, 0, 0, 0, 0, 0] =
    .ok ([9, 0, 78, 117, 108, 108, 68, 97, 116, 97, 0, 14, 0, 0, 0, 10, 0, 0, 0] ++ [0, 0, 0, 0, 0, 0, 0, 0, 0, 0]) := by decide +kernel

/-! ## polymorphic data holders over a class hierarchy and a registry (`NxModel/Nex/HolderPoly.lean`)

An object of ANY class of ANY class table (single inheritance below `Structure`, every class with its own level),
written through a holder and read back under ANY registry in which the object's own class name maps to its class,
comes back as an object of the same class with all levels of its hierarchy, and exactly the written bytes are
consumed. No hypothesis mentions the other registrations: registered ancestors (before or after the class),
descendants, siblings, three and more levels are all covered. -/

open HolderPoly in
theorem holder_poly_roundtrip (tbl : ClassTable) (reg : Registry) (header : Bool) (o : Obj) (d : ClassDef)
    (hd : tbl[o.cls]? = some d) (hreg : lookupLast d.name reg = some o.cls) (hwf : o.WellFormed tbl)
    {b : Bytes} (h : wHolder tbl header o = .ok b) (rest : Bytes) :
    rHolder tbl reg header (b ++ rest) = .ok (o.seen header, rest) := by
  unfold wHolder at h
  rw [hd] at h
  obtain ⟨payload, hp, h⟩ := bind_ok h
  have h1 := rAnyData_wAnyData h rest
  have h2 := rObject_wStruct tbl header o hwf hp []
  simp only [List.append_nil] at h2
  simp only [rHolder, rDataHolder, h1, bind, Except.bind, Option.bind, hreg, Option.map, h2, pure, Except.pure]

/-- the same with the registry described the way applications build it: pairwise different names, the object's
class registered under its own name somewhere in the list — and therefore for every order of the `register` calls -/
theorem holder_poly_roundtrip_any_order (tbl : HolderPoly.ClassTable) (reg reg' : HolderPoly.Registry) (header : Bool)
    (o : HolderPoly.Obj) (d : HolderPoly.ClassDef)
    (hd : tbl[o.cls]? = some d) (hnd : (reg.map (·.1)).Nodup) (hm : (d.name, o.cls) ∈ reg) (hp : reg.Perm reg')
    (hwf : o.WellFormed tbl) {b : Bytes} (h : HolderPoly.wHolder tbl header o = .ok b) (rest : Bytes) :
    HolderPoly.rHolder tbl reg' header (b ++ rest) = .ok (o.seen header, rest) :=
  holder_poly_roundtrip tbl reg' header o d hd
    ((HolderPoly.lookupLast_perm hnd hp).trans (HolderPoly.lookupLast_of_mem_nodup hnd hm)) hwf h rest

/-- the registry is a dict: with pairwise different names, a name maps to a class iff that pair was registered -/
theorem holder_registry_lookup {name : String} {c : Nat} {reg : HolderPoly.Registry} (hnd : (reg.map (·.1)).Nodup) :
    HolderPoly.lookupLast name reg = some c ↔ (name, c) ∈ reg := HolderPoly.lookupLast_eq_some_iff hnd

section HolderPolyExamples
open HolderPoly
/-- Shape ← Circle ← Disc, own levels of 2, 3 and 1 bytes -/
def exTbl : ClassTable := [⟨"Shape", none, 2⟩, ⟨"Circle", some 0, 3⟩, ⟨"Disc", some 1, 1⟩]
def exCircle : Obj := ⟨1, [(1, [7, 8]), (0, [1, 2, 3])]⟩

example : hierarchy exTbl 2 = [0, 1, 2] := by decide +kernel
example : exCircle.WellFormed exTbl := by unfold Obj.WellFormed; decide +kernel
/-- base registered before derived, derived before base, the base not at all: the Circle comes back a Circle -/
example : ∀ reg ∈ [[("Shape", 0), ("Circle", 1), ("Disc", 2)], [("Disc", 2), ("Circle", 1), ("Shape", 0)], [("Circle", 1)]],
    (wHolder exTbl true exCircle >>= fun b => rHolder exTbl reg true (b ++ [9])) = .ok (exCircle, [9]) := by decide +kernel
/-- what the round trip excludes: a frame announcing the BASE class's name for the same payload decodes to a Shape
without the Circle's level (nothing raises, the frame is consumed exactly) -/
example : (wStruct true exCircle.levels >>= fun p => wAnyData (some "Shape") p >>= fun b =>
    rHolder exTbl [("Shape", 0), ("Circle", 1)] true (b ++ [9])) = .ok (⟨0, [(1, [7, 8])]⟩, [9]) := by decide +kernel
end HolderPolyExamples

/-! ## DateTime: calendar accessors and Unix time -/

open DateTime in
/-- the accessors return the fields a value was made from (fields within their bit widths, any year) -/
theorem datetime_fields_make (f : Fields) (h : f.InRange) : fields (make f) = f := fields_make f h

open DateTime in
/-- for every value — all 2^64 wire values and every larger Python int — re-making it from its fields is the identity -/
theorem datetime_make_fields (v : Nat) : make (fields v) = v := make_fields v

open DateTime in
/-- days → civil date → days is the identity for every day number, and the civil date is a valid calendar date -/
theorem civil_roundtrip (z : Nat) :
    daysOfCivil (civilOfDays z).1 (civilOfDays z).2.1 (civilOfDays z).2.2 = z ∧
    1 ≤ (civilOfDays z).2.1 ∧ (civilOfDays z).2.1 ≤ 12 ∧ 1 ≤ (civilOfDays z).2.2 ∧
    (civilOfDays z).2.2 ≤ daysInMonth (civilOfDays z).1 (civilOfDays z).2.1 :=
  ⟨daysOfCivil_civilOfDays z, civilOfDays_valid z⟩

open DateTime in
/-- civil date → days → civil date is the identity on every valid calendar date of every year ≥ 1 (no upper bound):
with `civil_roundtrip` the two conversions are mutually inverse between the valid dates of the years ≥ 1 and their day
numbers (from 306 = 0001-01-01 on; the day numbers 0 … 305 are March … December of year 0, where only `civil_roundtrip` speaks) -/
theorem civil_roundtrip_inverse (y m d : Nat) (hy : 1 ≤ y) (hm1 : 1 ≤ m) (hm2 : m ≤ 12) (hd1 : 1 ≤ d)
    (hd2 : d ≤ daysInMonth y m) : civilOfDays (daysOfCivil y m d) = (y, m, d) :=
  civilOfDays_daysOfCivil y m d hy hm1 hm2 hd1 hd2

open DateTime in
/-- two valid calendar dates with the same day number are the same date (no two dates share a Unix day) -/
theorem civil_date_of_day_unique (y m d y' m' d' : Nat)
    (hy : 1 ≤ y) (hm1 : 1 ≤ m) (hm2 : m ≤ 12) (hd1 : 1 ≤ d) (hd2 : d ≤ daysInMonth y m)
    (hy' : 1 ≤ y') (hm1' : 1 ≤ m') (hm2' : m' ≤ 12) (hd1' : 1 ≤ d') (hd2' : d' ≤ daysInMonth y' m')
    (h : daysOfCivil y m d = daysOfCivil y' m' d') : (y, m, d) = (y', m', d') := by
  rw [← civilOfDays_daysOfCivil y m d hy hm1 hm2 hd1 hd2, h, civilOfDays_daysOfCivil y' m' d' hy' hm1' hm2' hd1' hd2']

open DateTime in
/-- DateTime → Unix time → DateTime: whenever `timestamp()` succeeds in a zone `off` seconds east of UTC,
`fromtimestamp` of the result succeeds and returns the very same value — no further hypothesis. (The direction
Unix → DateTime → Unix is `datetime_unix_partial` below, which needs one and has a genuine counterexample.) -/
theorem datetime_to_unix_and_back (off : Int) (v : Nat) (t : Int) (h : timestamp off v = .ok t) :
    fromTimestamp off t = .ok v := by
  obtain ⟨hv, h⟩ := ite_ok h
  obtain ⟨hy, rfl⟩ := guard_ok h
  rw [Bool.and_eq_true, yearOk_iff, yearOk_iff] at hy
  -- the range checks of `fromtimestamp` follow from those `timestamp()` made
  have hlt := secondsZ_lt _ hv
  have y1 : yearOk (secondsZ (fields v) : Int) = true := (yearOk_iff _).mpr ⟨by omega, by omega⟩
  unfold fromTimestamp
  simp only [Int.sub_add_cancel, y1, (yearOk_iff _).mpr hy.2, Bool.and_self, if_true, Int.toNat_natCast,
    fieldsOfSecondsZ_secondsZ _ hv, make_fields]

open DateTime in
/-- hence `timestamp()` never maps two different DateTime values to one Unix time (fixed offset) -/
theorem datetime_timestamp_injective (off : Int) (v v' : Nat) (t : Int)
    (h : timestamp off v = .ok t) (h' : timestamp off v' = .ok t) : v = v' := by
  have a := datetime_to_unix_and_back off v t h
  have b := datetime_to_unix_and_back off v' t h'
  rw [a] at b
  exact Except.ok.inj b

/-- the hypothesis is satisfiable: 2024-02-29T12:34:56 nine hours east of UTC -/
example : DateTime.timestamp 32400 (DateTime.make ⟨2024, 2, 29, 12, 34, 56⟩) = .ok 1709177696 := by decide +kernel

/-- the hypotheses are satisfiable at the corners: 29 February of a leap year, 31 December 9999, 1 January of year 1 -/
example : DateTime.civilOfDays (DateTime.daysOfCivil 2024 2 29) = (2024, 2, 29) ∧ (29 : Nat) ≤ DateTime.daysInMonth 2024 2 ∧
    DateTime.civilOfDays (DateTime.daysOfCivil 9999 12 31) = (9999, 12, 31) ∧
    DateTime.civilOfDays (DateTime.daysOfCivil 1 1 1) = (1, 1, 1) := by decide +kernel

/-- and the guard is needed: 29 February of a common year is not a date, and does not come back -/
example : DateTime.civilOfDays (DateTime.daysOfCivil 2023 2 29) = (2023, 3, 1) := by decide +kernel

open DateTime in
/-- Unix → DateTime → Unix, with one hypothesis more than the property asks for. Wanted: for all `off`, `t` such that the local
date of `t` lies in 1970..9999, `fromtimestamp(t)` succeeds and `timestamp()` of the result is `t`; that is false of the code
(`datetime_unix_counterexample`). Proved: where `fromtimestamp` passes its two range checks (`h1`, `h2`: local year 1..9999,
also 24 h earlier) and the civil time one offset later is still ≤ 9999-12-31T23:59:59 (`h3`). -/
theorem datetime_unix_partial (off t : Int)
    (h1 : yearOk (t + off + (epochZ * 86400 : Nat)) = true)
    (h2 : yearOk (t + off + (epochZ * 86400 : Nat) - 86400) = true)
    (h3 : yearOk (t + off + (epochZ * 86400 : Nat) + off) = true) :
    ∃ v, fromTimestamp off t = .ok v ∧ timestamp off v = .ok t := by
  obtain ⟨v, hv, hval, hsec⟩ := fromTimestamp_ok off t h1 h2
  refine ⟨v, hv, ?_⟩
  unfold timestamp
  simp only [hval, if_true, hsec, h2, h3, Bool.and_self, Except.ok.injEq]
  omega

open DateTime in
/-- 9999-12-31T23:59:59 at UTC+09:00: `fromtimestamp` succeeds, `timestamp()` of the result raises ValueError -/
theorem datetime_unix_counterexample :
    ∃ v, fromTimestamp 32400 253402268399 = .ok v ∧ timestamp 32400 v = .error .value :=
  ⟨make ⟨9999, 12, 31, 23, 59, 59⟩, by decide, by decide⟩

-- the fields of the counterexample's value are within their bit widths (the hypothesis of `datetime_fields_make`)
open DateTime in
example : (⟨9999, 12, 31, 23, 59, 59⟩ : Fields).InRange := by decide +kernel
-- `h1`, `h2`, `h3` of `datetime_unix_partial` at UTC+05:45, and the instant they speak of read in UTC
open DateTime in
example : yearOk (1596279690 + 20700 + (epochZ * 86400 : Nat)) = true ∧ yearOk (1596279690 + 20700 + (epochZ * 86400 : Nat) - 86400) = true ∧
    yearOk (1596279690 + 20700 + (epochZ * 86400 : Nat) + 20700) = true := by decide +kernel
open DateTime in
example : fromTimestamp 0 1596279690 = .ok (make ⟨2020, 8, 1, 11, 1, 30⟩) := by decide +kernel

/-! ### time zones whose rules changed over the years

   The zone is ANY function instant → UTC offset; `timestamp()` is CPython's `local_to_seconds` (the routine behind
   `timestamp()` of a naive datetime, `NxModel/Nex/C15Zone.lean`), which probes the zone at up to four instants (`t`, the first guess, a day before it, the second guess). -/

open DateTime Zone in
/-- Unix → DateTime → Unix in a zone with a history. Wanted by the property: every instant whose civil time occurs once
round-trips, in every zone. Proved: the same (`once`) for every zone that within three days of the instant `t` is a zone with
ONE rule change (`hz`: it agrees there with `zTwo T a b`, any two offsets within a day of UTC — DST starting / ending /
abolished, a moved standard offset, a date-line jump), where `fromtimestamp` passes its range checks (`h1`, `h2`: local year
1..9999 minus the first day). NOT proved: two rule changes less than three days apart (no zone of the tz database has that
after 1970); range errors at the far edge of year 9999 are not modelled here (known finding of the fixed zones). -/
theorem datetime_unix_zone_history (z : Zone) (T a b t : Int)
    (ha : -86400 ≤ a ∧ a ≤ 86400) (hb : -86400 ≤ b ∧ b ≤ 86400)
    (hz : ∀ x, t - 259200 ≤ x → x ≤ t + 259200 → z x = zTwo T a b x)
    (once : ∀ t', t' + z t' = t + z t → t' = t)
    (h1 : yearOk (t + z t + E) = true) (h2 : yearOk (t + z t + E - 86400) = true) :
    ∃ v, fromTimestampZ z t = .ok v ∧ timestampZ z v = .ok t :=
  timestampZ_fromTimestampZ z T a b t ha hb hz once h1 h2

open Zone in
/-- `local_to_seconds` itself, one rule change between ANY two offsets: it inverts `local` wherever the civil time occurs once -/
theorem local_to_seconds_inverts_local (T a b u : Int)
    (once : ∀ u', localOf (zTwo T a b) u' = localOf (zTwo T a b) u → u' = u) :
    localToSeconds (zTwo T a b) (localOf (zTwo T a b) u) = u :=
  localToSeconds_two T a b u once

/- the hypotheses at a non-trivial point: America/Mexico_City, one second after DST began on 1996-04-07 (02:00 CST -> 03:00 CDT) -/
open Zone in
example : ∀ t', t' + zTwo 828864000 (-21600) (-18000) t' = 828864001 + zTwo 828864000 (-21600) (-18000) 828864001 → t' = 828864001 := by
  intro t' h; simp only [zTwo] at h; split at h <;> simp at h <;> omega
open DateTime Zone in
example : fromTimestampZ (zTab (-21600) [(828864000, -18000), (846399600, -21600)]) 828864001 = .ok (make ⟨1996, 4, 7, 3, 0, 1⟩) := by decide +kernel
open DateTime Zone in
example : timestampZ (zTab (-21600) [(828864000, -18000), (846399600, -21600)]) (make ⟨1996, 4, 7, 3, 0, 1⟩) = .ok 828864001 := by decide +kernel
/- a skipped local time (02:30 that night) goes to the later instant, a repeated one (01:30 on 1996-10-27) to its first occurrence -/
open DateTime Zone in
example : timestampZ (zTab (-21600) [(828864000, -18000), (846399600, -21600)]) (make ⟨1996, 4, 7, 2, 30, 0⟩) = .ok 828865800 := by decide +kernel
open DateTime Zone in
example : timestampZ (zTab (-21600) [(828864000, -18000), (846399600, -21600)]) (make ⟨1996, 10, 27, 1, 30, 0⟩) = .ok 846397800 := by decide +kernel

/-! ## StationURL: text form -/

open StationURL in
/-- `parse (repr u)` returns the scheme and every parameter in order, values as the strings `repr` printed, for a
non-empty scheme without `:`, names/values free of `; = : /`, distinct names other than `scheme`/`self` -/
theorem stationurl_parse_repr (u : URL) (h : WF u) : parse (some (repr u)) = .ok (strVals u) := parse_repr u h

open StationURL in
/-- … and a URL holding string values (e.g. any parsed one) comes back identical -/
theorem stationurl_roundtrip_partial (u : URL) (h : WF u) (hs : ∀ p ∈ u.params, ∃ s, p.2 = PVal.s s) :
    parse (some (repr u)) = .ok u := by
  rw [parse_repr u h, strVals_of_str u hs]

open StationURL in
theorem stationurl_stream_roundtrip (u : URL) (h : WF u) {b : Bytes} (hw : wStationURL u = .ok b) (rest : Bytes) :
    rStationURL (b ++ rest) = .ok (strVals u, rest) := by
  unfold rStationURL
  simp only [rString_wString hw rest, bind, Except.bind, Option.map_some, String.toList_ofList, parse_repr u h, pure,
    Except.pure]

open StationURL in
example : WF ⟨"prudp".toList, [("address".toList, .s "1.2.3.4".toList), ("port".toList, .i 1223)]⟩ :=
  ⟨by decide +kernel, by decide +kernel, by decide +kernel, by decide +kernel, by decide +kernel⟩
open StationURL in
example : parse (some "prudp:/address=1.2.3.4;port=1223".toList) =
    .ok ⟨"prudp".toList, [("address".toList, .s "1.2.3.4".toList), ("port".toList, .s "1223".toList)]⟩ := by decide +kernel
open StationURL in
example : getitem ⟨"prudp".toList, [("port".toList, .s "1223".toList)]⟩ "port".toList = .ok (.i 1223) := by decide +kernel

/-- Python's `int(str(v)) = v` for the modelled `int()` (surrounding white space, optional sign, single underscores between
digits) and `str()`: the value of an int-valued StationURL parameter survives its text form, for every integer -/
theorem stationurl_int_of_str (v : Int) : StationURL.pyInt (StationURL.intStr v) = some v := StationURL.pyInt_intStr v

open StationURL in
/-- typed parameter access survives the text form: for a well-formed URL, `parse (repr u)` succeeds and `u'[field]` on the
result equals `u[field]` on the original, for EVERY field name — string parameters, int parameters held as ints or as text,
absent parameters (defaults) and unknown names (KeyError) alike -/
theorem stationurl_typed_access_roundtrip (u : URL) (h : WF u) (field : Str) :
    ∃ u', parse (some (repr u)) = .ok u' ∧ getitem u' field = getitem u field :=
  ⟨strVals u, parse_repr u h, getitem_strVals u field⟩

/-- on a concrete URL with an int-valued port held as an int, the typed read after the text form (`strVals`) gives the int back -/
example : StationURL.getitem (StationURL.strVals ⟨"prudps".toList, [("port".toList, .i 60000), ("address".toList, .s "1.2.3.4".toList)]⟩)
    "port".toList = .ok (.i 60000) := by decide +kernel

/-- and the parser is not the identity on text: white space, a plus sign and underscores are accepted, a double underscore is not -/
example : StationURL.pyInt " +1_000 ".toList = some 1000 ∧ StationURL.pyInt "-42".toList = some (-42) ∧
    StationURL.pyInt "1__0".toList = none ∧ StationURL.pyInt "".toList = none := by decide +kernel

/-! ## state carried on ONE object across a sequence of operations

Several values through one `StreamOut`/`StreamIn`, and a `StationURL` that is serialised, edited through its
mutators (`url[k] = v`, `.params`, `.urlscheme`, `copy()`, re-parse) and serialised again. The model object has
no state besides its logical content; the real object is tied to `ObjWalk.run` by the `url.walk` / `seq.w` /
`seq.r` correspondence lines and by the "equals a freshly built object" oracle of `harness/nexval_walk.py`. -/

open ObjWalk in
/-- values written one after the other to one stream are read back one after the other, each equal, and the
reader stops exactly at the end of the last one -/
theorem stream_sequence_roundtrip (pidSize : Nat) (items : List (Ty × Val))
    (helem : ∀ e ∈ items, ∀ b rest, wVal pidSize e.1 e.2 = .ok b → rVal pidSize e.1 (b ++ rest) = .ok (e.2, rest))
    {b : Bytes} (h : wSeq pidSize items = .ok b) (rest : Bytes) :
    rSeq pidSize (items.map (·.1)) (b ++ rest) = .ok (items.map (·.2), rest) :=
  seq_rt (W := wSeq pidSize) (R := fun l => rSeq pidSize (l.map (·.1))) (w := fun e => wVal pidSize e.1 e.2)
    (r := fun e => rVal pidSize e.1) rfl (fun _ _ => rfl) (fun _ => rfl) (fun _ _ _ => rfl) items helem b rest h

open ObjWalk in
/-- what a stream holds after `xs` then `ys` is what a fresh stream holds after `xs` followed by what a fresh
stream holds after `ys`: earlier writes leave nothing behind that changes later ones -/
theorem stream_sequence_concat (pidSize : Nat) (xs ys : List (Ty × Val)) {a b : Bytes}
    (ha : wSeq pidSize xs = .ok a) (hb : wSeq pidSize ys = .ok b) : wSeq pidSize (xs ++ ys) = .ok (a ++ b) := by
  induction xs generalizing a with
  | nil => cases ha; exact hb
  | cons e r ih =>
    obtain ⟨x, hx, ha⟩ := bind_ok ha
    obtain ⟨c, hc, rfl⟩ := bind_pure_ok ha
    simp only [List.cons_append, wSeq, hx, ih hc, bind, Except.bind, pure, Except.pure, List.append_assoc]

open ObjWalk in
example : wSeq 4 [(.pid, .nat 7), (.string, .str (some "é")), (.variant, .variant (.int (-1)))] =
    .ok [7, 0, 0, 0, 3, 0, 0xC3, 0xA9, 0, 1, 255, 255, 255, 255, 255, 255, 255, 255] := by decide +kernel

open ObjWalk StationURL in
/-- every observation made during a walk is the observation a fresh object with the logical content reached
so far would give (no cached text, no stale typed value) -/
theorem stationurl_walk_observations (u : URL) (ops : List UOp) (i : Nat) (h : i < ops.length) :
    (run u ops).1[i]? = some (observe (content u (ops.take i)) ops[i]) := run_obs u ops i h

open ObjWalk StationURL in
theorem stationurl_walk_final (u : URL) (ops : List UOp) : (run u ops).2 = content u ops := by
  induction ops generalizing u with
  | nil => rfl
  | cons op r ih => simp only [run, content, List.foldl_cons]; exact ih _

open ObjWalk StationURL in
/-- after ANY sequence of clean operations (`OpClean`) on one URL object that was well-formed at the start, its text form
parses back to its parameters -/
theorem stationurl_walk_roundtrip (u : URL) (h : WF u) (ops : List UOp) (hops : ∀ op ∈ ops, OpClean op) :
    parse (some (repr (run u ops).2)) = .ok (strVals (run u ops).2) := by
  rw [stationurl_walk_final]; exact parse_repr _ (WF_content u h ops hops)

open ObjWalk StationURL in
/-- … and so does its stream form, with exact consumption -/
theorem stationurl_walk_stream_roundtrip (u : URL) (h : WF u) (ops : List UOp) (hops : ∀ op ∈ ops, OpClean op)
    {b : Bytes} (hw : wStationURL (run u ops).2 = .ok b) (rest : Bytes) :
    rStationURL (b ++ rest) = .ok (strVals (run u ops).2, rest) :=
  stationurl_stream_roundtrip _ (by rw [stationurl_walk_final]; exact WF_content u h ops hops) hw rest

open ObjWalk StationURL in
/-- typed access under an int-typed parameter name sees an integer stored with `url[k] = n`, whatever was stored or serialised before -/
theorem stationurl_set_get_int (u : URL) (k : Str) (n : Int) (hs : k ∉ strParams) (hi : k ∈ intParams) :
    getitem (setitem u k (.i n)) k = .ok (.i n) := by
  simp [getitem, setitem, hs, hi, dictGet_dictInsert_same]

open ObjWalk StationURL in
theorem stationurl_set_get_str (u : URL) (k : Str) (v : PVal) (hs : k ∈ strParams) :
    getitem (setitem u k v) k = .ok (.s v.render) := by
  simp [getitem, setitem, hs, dictGet_dictInsert_same]

open ObjWalk StationURL in
/-- … and `url[k] = v` changes typed access to no other parameter -/
theorem stationurl_set_get_other (u : URL) (k f : Str) (v : PVal) (hne : f ≠ k) :
    getitem (setitem u k v) f = getitem u f := by
  simp [getitem, setitem, dictGet_dictInsert_other k f v u.params hne]

open ObjWalk StationURL in
example : (run ⟨"prudp".toList, [("port".toList, .i 1)]⟩ [.str, .set "port".toList (.i 2), .str, .get "port".toList]).1 =
    [.text "prudp:/port=1".toList, .done, .text "prudp:/port=2".toList, .pval (.i 2)] := by decide +kernel
open ObjWalk StationURL in
example : OpClean (.set "port".toList (.i 2)) := by unfold OpClean; decide +kernel
open ObjWalk StationURL in
example : "port".toList ∉ strParams ∧ "port".toList ∈ intParams ∧ "address".toList ∈ strParams := by decide +kernel

/-! ## Result: the error bit, and the code ↔ name table -/

theorem result_error_bit (c : Nat) :
    Result.isError (Result.mkError c) = true ∧ Result.isSuccess (Result.mkSuccess c) = true ∧
    Result.isError c = !Result.isSuccess c ∧ (Result.isError c = true ↔ c / 2147483648 % 2 = 1) :=
  ⟨isError_mkError c, isSuccess_mkSuccess c, isError_eq_not_isSuccess c, isError_iff_bit31 c⟩

theorem result_error_code_recoverable (c : Nat) (h : c < errorMask) : Result.mkSuccess (Result.mkError c) = c :=
  mkSuccess_mkError c h

/-- any table whose (kernel-evaluated) checks succeed is a bijection between its codes and names:
`nameOf`/`codeOf` are inverse on exactly the table's entries, `Result.error(name).name() = name`,
`Result.error(name).code() = code | 2^31`, and no name collides with "success"/"unknown error".
The check itself is a *generated obligation* re-run on every `./check C15` on the table extracted from errors.py. -/
theorem error_table_bijective_of_checks (fuel : Nat) (codes keys : List Nat)
    (hlen : Nat.beq codes.length keys.length = true)
    (hcodes : (sortedN codes || nodupN codes) = true)
    (hkeys : nodupN keys = true)
    (hvalid : eqN ((genNames fuel keys).map encodeName) keys = true)
    (hbelow : allBelowN errorMask codes = true)
    (hres : (notInN (encodeName successName) keys && notInN (encodeName unknownName) keys) = true) :
    TableBijective (genTable fuel codes keys) :=
  tableBijective_of_gen fuel codes keys hlen hcodes hkeys hvalid hbelow hres

example : TableBijective (genTable 8 [0x10001, 0x10002] [encodeName [67, 111], encodeName [68]]) :=
  error_table_bijective_of_checks 8 _ _ (by decide +kernel) (by decide +kernel) (by decide +kernel) (by decide +kernel) (by decide +kernel) (by decide +kernel)

end Nx.C15
