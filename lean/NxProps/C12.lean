import NxProofs.SchemaInventory
/-!
# C12 — checked-in protocol stubs and docs are exactly the generator's output

Byte equality of 54 files with the output of a Python program is established by *re-running that program*
(the repository's generator, in a scratch copy) and comparing bytes — exhaustive and finite; Lean adds nothing
to that and it is claimed as translation validation, not as proof. What is decided by the kernel on every
run are the obligations the re-generation cannot see:
* the **inventory bijection** (`inventoryOK`, on the name lists collected from the working tree): the generator
  never deletes, so a generated page or module whose definition is gone survives every re-run unchanged;
* equality of the tables recovered by `ast` from the checked-in modules (structure classes with parent and
  DataHolder registration, protocol ids, NORESPONSE, method names and ids) with those of the definitions.
The same checker is applied a second time per run to the names of the files that one generator run wrote into
empty output directories (`run_writes_exactly_the_definitions`): a definition the generator silently gives up on
has no output of "this run", although its checked-in files still sit in the tree.
The theorems below say what a discharged `inventoryOK` obligation means.
-/
namespace Nx.C12
open Nx.Schema.Inv

/-- a discharged inventory obligation is the bijection the property states: no definition lacks its module or
    page, no generated module or page lacks its definition -/
theorem inventory_bijection (protos modules pages : List Nat) (h : inventoryOK protos modules pages = true) :
    (∀ x, x ∈ protos ↔ x ∈ modules) ∧ (∀ x, x ∈ protos ↔ x ∈ pages) :=
  inventoryOK_iff protos modules pages h

/-- an orphaned generated page (or, symmetrically by `inventory_bijection`, module) makes the obligation fail -/
theorem orphan_page_detected (protos modules pages : List Nat) (x : Nat) (hx : x ∈ pages) (hp : x ∉ protos) :
    inventoryOK protos modules pages = false :=
  Bool.eq_false_iff.mpr fun h => hp (((inventoryOK_iff protos modules pages h).2 x).mpr hx)

/-- the same obligation on the names of the files ONE generator run wrote into empty output directories: every
    definition got its module and its page from that run, and the run wrote nothing that belongs to no definition
    (the generator's exit status and log are not part of the statement) -/
theorem run_writes_exactly_the_definitions (protos written_modules written_pages : List Nat)
    (h : inventoryOK protos written_modules written_pages = true) :
    (∀ x ∈ protos, x ∈ written_modules ∧ x ∈ written_pages) ∧
    (∀ x, x ∈ written_modules ∨ x ∈ written_pages → x ∈ protos) :=
  run_complete protos written_modules written_pages h

/-- a definition for which the run wrote no module or no page makes the obligation fail, whatever else was written -/
theorem unwritten_definition_detected (protos written_modules written_pages : List Nat) (x : Nat) (hx : x ∈ protos)
    (hw : x ∉ written_modules ∨ x ∉ written_pages) : inventoryOK protos written_modules written_pages = false :=
  Bool.eq_false_iff.mpr fun h =>
    have := (run_complete protos written_modules written_pages h).1 x hx
    hw.elim (fun k => k this.1) (fun k => k this.2)

/-! `inventoryOK` at points: a definition without its module, a bijection (the hypothesis of `inventory_bijection` and of
`run_writes_exactly_the_definitions` can be met), an orphaned page (`orphan_page_detected`); `missing` names the culprit -/
example : inventoryOK [1, 2, 3] [3, 1] [2, 3, 1] = false := by decide +kernel
example : missing [1, 2, 3] [3, 1] = [2] := by decide +kernel
example : inventoryOK [1, 2, 3] [3, 1, 2] [2, 3, 1] = true := by decide +kernel
example : inventoryOK [1, 2, 3] [3, 1, 2] [2, 3, 1, 4] = false := by decide +kernel
example : missing [2, 3, 1, 4] [1, 2, 3] = [4] := by decide +kernel

end Nx.C12
