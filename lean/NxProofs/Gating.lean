import NxProofs.HandleForm
/-! C04, C07: packets that fail the signature / session / substream checks, and SYN / CONNECT packets nobody waits for, change nothing -/
namespace Nx.L1
open Nx.Prudp

/-- the signature `PRUDPClient.handle` demands of a packet, by type -/
def Conn.expectedSig (env : Env) (c : Conn) (p : Packet) : Option Bytes :=
  if p.type = TYPE_SYN then env.packetSig c.codec p [] []
  else if p.type = TYPE_CONNECT then env.packetSig c.codec p [] (env.connSig c.codec c.remoteAddr)
  else env.packetSig c.codec p c.sessionKey (env.connSig c.codec c.remoteAddr)

/-- a result that left the connection untouched and produced nothing -/
def R.inert (r : R) (c : Conn) : Prop := r.c = c ∧ r.outs = []

/-- **signature gate (connection level).** A packet whose signature is not the expected one leaves the connection
    exactly as it was — no state change, no timer cancelled, nothing delivered, nothing emitted —
    whatever its type, flags (incl. ACK and MULTI_ACK) and contents. -/
theorem handle_bad_signature (env : Env) (now : Time) (c : Conn) (p : Packet)
    (h : p.signature ≠ c.expectedSig env p) : (c.handle env now p).inert c := by
  rcases handle_gates env now c p with hg | hg
  · exact hg
  -- whichever `process_*` the type selects fails at its first check
  rw [hg, Conn.process]
  unfold Conn.expectedSig at h
  by_cases h0 : p.type = TYPE_SYN
  · rw [if_pos h0] at h ⊢
    rw [Conn.processSyn_invalid env now c p (fun hv => h hv.1)]; exact ⟨rfl, rfl⟩
  rw [if_neg h0] at h ⊢
  by_cases h1 : p.type = TYPE_CONNECT
  · rw [if_pos h1] at h ⊢
    rw [Conn.processConnect_invalid env c p (fun hv => h hv.1)]; exact ⟨rfl, rfl⟩
  rw [if_neg h1] at h ⊢
  rw [Conn.processOther, if_pos h]; exact ⟨rfl, rfl⟩

/-- a correctly signed packet with a wrong session id or a substream id beyond the negotiated one is equally inert
    (these checks follow the signature check; aggregate acks are exempt in the code and therefore excluded here) -/
theorem handle_wrong_session_or_substream (env : Env) (now : Time) (c : Conn) (p : Packet)
    (ht : p.type ≠ TYPE_SYN ∧ p.type ≠ TYPE_CONNECT) (hm : hasMultiAck p.flags = false)
    (h : p.substreamId > c.maxSub ∨ some p.sessionId ≠ c.remoteSessionId) : (c.handle env now p).inert c := by
  rcases handle_other env now c p ht.1 ht.2 with hg | hg
  · exact hg
  rw [hg, Conn.processOther]
  by_cases hs : p.signature ≠ env.packetSig c.codec p c.sessionKey (env.connSig c.codec c.remoteAddr)
  · rw [if_pos hs]; exact ⟨rfl, rfl⟩
  rw [if_neg hs, if_neg (by rw [hm]; exact Bool.false_ne_true)]
  by_cases h1 : p.substreamId > c.maxSub
  · rw [if_pos h1]; exact ⟨rfl, rfl⟩
  · rw [if_neg h1, if_pos (h.resolve_left h1)]; exact ⟨rfl, rfl⟩

theorem server_unknown_peer (env : Env) (now : Time) (rnd : Rnd) (up : Bool) (s : ServerStream) (p : Packet) (addr : Addr)
    (h1 : ¬ (p.type = TYPE_SYN ∧ (!hasAck p.flags) = true)) (h2 : ¬ (p.type = TYPE_CONNECT ∧ (!hasAck p.flags) = true))
    (h : clientLookup (addr, p.sourcePort, p.sourceType) s.clients = none) :
    (s.handle env now rnd up p addr).s = s ∧ (s.handle env now rnd up p addr).outs = [] ∧ (s.handle env now rnd up p addr).err = none := by
  unfold ServerStream.handle
  rw [if_neg h1, if_neg h2]
  simp only [h]
  exact ⟨trivial, trivial, trivial⟩

/-- **a SYN packet that arrives when no SYN is waiting for its acknowledgement changes nothing** — whatever it claims (a late or
    duplicated SYN/ACK, a crafted one with other parameters or another connection signature): the established connection keeps
    its negotiated parameters, the peer's signature, its counters, everything -/
theorem late_syn_inert (env : Env) (now : Time) (c : Conn) (p : Packet) (hp : p.type = TYPE_SYN)
    (hst : c.state = STATE_CONNECTED) (hno : ∀ e ∈ c.ackEvents, e.1.1 ≠ TYPE_SYN) : (c.handle env now p).c = c := by
  have hl : ackLookup (ackKeyOf p) c.ackEvents = none :=
    (ackLookup_eq_none_iff _ _).mpr fun e he hk => hno e he (hk ▸ hp)
  have hps : (c.processSyn env now p).c = c := by
    by_cases hv : c.synValid env p
    · rw [Conn.processSyn_valid env now c p hv, hl]; rfl
    · rw [Conn.processSyn_invalid env now c p hv]; rfl
  rw [handle_syn env now c p hp (by rw [hst]; decide), R.bind_ok_map, hps, acked_of_none c p hl, ite_self]

theorem late_connect_inert (env : Env) (now : Time) (c : Conn) (p : Packet) (hp : p.type = TYPE_CONNECT)
    (hno : ∀ e ∈ c.ackEvents, e.1.1 ≠ TYPE_CONNECT) : (c.handle env now p).c = c := by
  have hl : ackLookup (ackKeyOf p) c.ackEvents = none :=
    (ackLookup_eq_none_iff _ _).mpr fun e he hk => hno e he (hk ▸ hp)
  rcases handle_connect env now c p hp with hh | hh
  · exact hh.1
  have hpc : (c.processConnect env p).c = c := by
    by_cases hv : c.connectValid env p
    · rw [Conn.processConnect_valid env c p hv, hl]; rfl
    · rw [Conn.processConnect_invalid env c p hv]; rfl
  rw [hh, R.bind_ok_map, hpc, acked_of_none c p hl, ite_self]

end Nx.L1
