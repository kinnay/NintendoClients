import NxModel.Nex.Errors
import NxProofs.NexCommon
import NxProofs.Assoc
/-! The error table: a successful `checkTable` implies that the two dicts built from it are inverse bijections
(`tableBijective_of_check`; for the generated table, `tableBijective_of_gen`). Before that, the dicts themselves: `dictGet` is
`alookup` and `dictInsert` is `aset` (`Assoc.lean`); storing items with distinct keys one after the other appends them
(`foldl_dictInsert`). `NexStationURL` and `NexObjWalk` use this part too. -/
namespace Nx.Nex

theorem notIn_iff {α : Type} [BEq α] [LawfulBEq α] (x : α) (l : List α) : notIn x l = true ↔ x ∉ l := by
  induction l with
  | nil => simp [notIn]
  | cons y r ih =>
    simp only [notIn, Bool.and_eq_true, Bool.not_eq_true', beq_eq_false_iff_ne, ih, List.mem_cons, not_or]
    constructor
    · rintro ⟨a, b⟩; exact ⟨fun e => a e.symm, b⟩
    · rintro ⟨a, b⟩; exact ⟨fun e => a e.symm, b⟩

theorem nodupB_iff {α : Type} [BEq α] [LawfulBEq α] (l : List α) : nodupB l = true ↔ l.Nodup := by
  induction l with
  | nil => simp [nodupB]
  | cons y r ih => simp [nodupB, ih, notIn_iff]

section dict
variable {κ ν : Type} [BEq κ]

theorem dictGet_eq : @dictGet κ ν _ = alookup := by
  funext k l
  induction l with
  | nil => rfl
  | cons x r ih => simp [dictGet, alookup, ih]

variable [LawfulBEq κ]

/-- `dictInsert` keeps the key it finds where `aset` puts the one it was given: the same only for a lawful `==` -/
theorem dictInsert_eq : @dictInsert κ ν _ = aset := by
  funext k v l
  induction l with
  | nil => rfl
  | cons x r ih => by_cases h : x.1 = k <;> simp [dictInsert, aset, h, ih]

theorem dictInsert_cons_self (k : κ) (v v' : ν) (r : List (κ × ν)) : dictInsert k v ((k, v') :: r) = (k, v) :: r := by
  simp [dictInsert]

theorem dictInsert_cons_ne {k k' : κ} (h : k' ≠ k) (v v' : ν) (r : List (κ × ν)) :
    dictInsert k v ((k', v') :: r) = (k', v') :: dictInsert k v r := by
  simp [dictInsert, h]

theorem dictInsert_of_notMem (k : κ) (v : ν) (l : List (κ × ν)) (h : k ∉ l.map (·.1)) :
    dictInsert k v l = l ++ [(k, v)] := by
  induction l with
  | nil => rfl
  | cons e r ih =>
    rw [List.map_cons, List.mem_cons, not_or] at h
    rw [dictInsert_cons_ne (Ne.symm h.1), ih h.2, List.cons_append]

theorem keys_dictInsert (k : κ) (v : ν) (l : List (κ × ν)) :
    (dictInsert k v l).map (·.1) = if k ∈ l.map (·.1) then l.map (·.1) else l.map (·.1) ++ [k] := by
  induction l with
  | nil => rfl
  | cons e r ih =>
    obtain ⟨k', v'⟩ := e
    by_cases hk : k' = k
    · subst hk; rw [dictInsert_cons_self, List.map_cons, List.map_cons, if_pos List.mem_cons_self]
    · rw [dictInsert_cons_ne hk, List.map_cons, List.map_cons, ih]
      by_cases hm : k ∈ r.map (·.1)
      · rw [if_pos hm, if_pos (List.mem_cons_of_mem _ hm)]
      · rw [if_neg hm, if_neg (fun h => (List.mem_cons.mp h).elim (fun e => hk e.symm) hm), List.cons_append]

theorem mem_dictInsert (k : κ) (v : ν) (l : List (κ × ν)) (p : κ × ν) (hp : p ∈ dictInsert k v l) :
    p ∈ l ∨ p = (k, v) := by
  rw [dictInsert_eq] at hp; exact (mem_aset hp).symm

theorem dictGet_dictInsert_same (k : κ) (v : ν) (l : List (κ × ν)) : dictGet k (dictInsert k v l) = some v := by
  rw [dictGet_eq, dictInsert_eq, alookup_aset_self]

theorem dictGet_dictInsert_other (k f : κ) (v : ν) (l : List (κ × ν)) (hne : f ≠ k) :
    dictGet f (dictInsert k v l) = dictGet f l := by
  rw [dictGet_eq, dictInsert_eq, alookup_aset_ne hne]

theorem dictGet_iff (l : List (κ × ν)) (hl : (l.map (·.1)).Nodup) (k : κ) (v : ν) :
    dictGet k l = some v ↔ (k, v) ∈ l := by
  rw [dictGet_eq]; exact ⟨mem_of_alookup, alookup_of_mem hl⟩

theorem foldl_dictInsert {ε : Type} (f : ε → κ) (g : ε → ν) (l : List ε) (acc : List (κ × ν))
    (hl : (l.map f).Nodup) (hd : ∀ e ∈ l, f e ∉ acc.map (·.1)) :
    l.foldl (fun d e => dictInsert (f e) (g e) d) acc = acc ++ l.map (fun e => (f e, g e)) := by
  induction l generalizing acc with
  | nil => simp
  | cons e r ih =>
    simp only [List.map_cons, List.nodup_cons] at hl
    simp only [List.foldl_cons]
    rw [dictInsert_of_notMem _ _ _ (hd e (by simp))]
    rw [ih _ hl.2]
    · simp
    · intro e' he'
      simp only [List.map_append, List.map_cons, List.map_nil, List.mem_append, List.mem_singleton, not_or]
      refine ⟨hd e' (by simp [he']), ?_⟩
      intro heq
      exact hl.1 (heq ▸ List.mem_map_of_mem he')

end dict

theorem namesDict_eq (t : ErrTable) (h : (t.map (·.1)).Nodup) : namesDict t = t := by
  unfold namesDict
  rw [foldl_dictInsert (·.1) (·.2) t [] h (by simp)]
  simp

theorem codesDict_eq (t : ErrTable) (h1 : (t.map (·.1)).Nodup) (h2 : (t.map (·.2)).Nodup) :
    codesDict t = t.map (fun e => (e.2, e.1)) := by
  unfold codesDict
  rw [namesDict_eq t h1, foldl_dictInsert (·.2) (·.1) t [] h2 (by simp)]
  simp

theorem tableBijective_of (t : ErrTable) (h1 : (t.map (·.1)).Nodup) (h2 : (t.map (·.2)).Nodup)
    (h3 : ∀ e ∈ t, e.1 < errorMask) (h4 : successName ∉ t.map (·.2)) (h5 : unknownName ∉ t.map (·.2)) :
    TableBijective t := by
  have hn : ∀ c n, nameOf t c = some n ↔ (c, n) ∈ t := by
    intro c n
    unfold nameOf
    rw [namesDict_eq t h1]
    exact dictGet_iff t h1 c n
  have hc : ∀ c n, codeOf t n = some c ↔ (c, n) ∈ t := by
    intro c n
    unfold codeOf
    have h2' : ((t.map (fun e => (e.2, e.1))).map (·.1)).Nodup := by
      rw [List.map_map]; exact h2
    rw [codesDict_eq t h1 h2, dictGet_iff _ h2']
    simp only [List.mem_map, Prod.mk.injEq, Prod.exists]
    constructor
    · rintro ⟨a, b, hm, rfl, rfl⟩; exact hm
    · intro hm; exact ⟨c, n, hm, rfl, rfl⟩
  refine ⟨hn, hc, ?_, ?_⟩
  · intro c n hmem
    have hlt := h3 (c, n) hmem
    refine ⟨hlt, ?_, ?_⟩
    · have hs : Result.isSuccess (Result.mkError c) = false := by
        have := isError_mkError c
        rw [isError_eq_not_isSuccess, Bool.not_eq_true'] at this
        exact this
      -- `Result.key` clears the error bit exactly as `Result.mkSuccess` does
      have hk : Result.key (Result.mkError c) = c := mkSuccess_mkError c hlt
      rw [Result.name, hs, hk, (hn c n).mpr hmem]; rfl
    · unfold Result.errorNamed
      rw [(hc c n).mpr hmem]
  · intro c
    exact ⟨fun h => h4 (List.mem_map_of_mem (f := (·.2)) h), fun h => h5 (List.mem_map_of_mem (f := (·.2)) h)⟩

theorem tableBijective_of_check (t : ErrTable) (h : checkTable t = true) : TableBijective t := by
  simp only [checkTable, Bool.and_eq_true, nodupB_iff, notIn_iff, List.all_eq_true, decide_eq_true_eq] at h
  obtain ⟨⟨⟨⟨h1, h2⟩, h3⟩, h4⟩, h5⟩ := h
  exact tableBijective_of t h1 h2 h3 h4 h5

theorem notInN_iff (x : Nat) (l : List Nat) : notInN x l = true ↔ x ∉ l := by
  induction l with
  | nil => simp [notInN]
  | cons y r ih =>
    have hb : (Nat.beq y x = false) ↔ x ≠ y := by
      rw [← Bool.not_eq_true, Nat.beq_eq]; exact ne_comm
    simp only [notInN, Bool.and_eq_true, Bool.not_eq_true', ih, List.mem_cons, not_or, hb]

theorem nodupN_iff (l : List Nat) : nodupN l = true ↔ l.Nodup := by
  induction l with
  | nil => simp [nodupN]
  | cons y r ih => simp [nodupN, ih, notInN_iff]

theorem sortedN_lt (x : Nat) (r : List Nat) (h : sortedN (x :: r) = true) : ∀ y ∈ r, x < y := by
  induction r generalizing x with
  | nil => simp
  | cons z r ih =>
    simp only [sortedN, Bool.and_eq_true, Nat.blt_eq] at h
    intro y hy
    rcases List.mem_cons.mp hy with rfl | hy
    · exact h.1
    · exact Nat.lt_trans h.1 (ih z h.2 y hy)

theorem sortedN_nodup (l : List Nat) (h : sortedN l = true) : l.Nodup := by
  induction l with
  | nil => simp
  | cons x r ih =>
    have hr : sortedN r = true := by
      cases r with
      | nil => rfl
      | cons z r => simp only [sortedN, Bool.and_eq_true] at h; exact h.2
    exact List.nodup_cons.mpr ⟨fun hm => Nat.lt_irrefl _ (sortedN_lt x r h x hm), ih hr⟩

theorem eqN_iff (a b : List Nat) : eqN a b = true ↔ a = b := by
  induction a generalizing b with
  | nil => cases b <;> simp [eqN]
  | cons x r ih => cases b with
    | nil => simp [eqN]
    | cons y s => simp [eqN, ih]

theorem allBelowN_iff (bound : Nat) (l : List Nat) : allBelowN bound l = true ↔ ∀ x ∈ l, x < bound := by
  induction l with
  | nil => simp [allBelowN]
  | cons y r ih => simp [allBelowN, ih]

/-- what the file printed by `tools/nexval_errors.py` instantiates: all hypotheses are closed `Bool` evaluations -/
theorem tableBijective_of_gen (fuel : Nat) (codes keys : List Nat)
    (hlen : Nat.beq codes.length keys.length = true)
    (hcodes : (sortedN codes || nodupN codes) = true)
    (hkeys : nodupN keys = true)
    (hvalid : eqN ((genNames fuel keys).map encodeName) keys = true)
    (hbelow : allBelowN errorMask codes = true)
    (hres : (notInN (encodeName successName) keys && notInN (encodeName unknownName) keys) = true) :
    TableBijective (genTable fuel codes keys) := by
  have hl : codes.length = (genNames fuel keys).length := by
    simp [genNames, Nat.eq_of_beq_eq_true hlen]
  have hfst : (genTable fuel codes keys).map (·.1) = codes :=
    List.map_fst_zip (Nat.le_of_eq hl)
  have hsnd : (genTable fuel codes keys).map (·.2) = genNames fuel keys :=
    List.map_snd_zip (Nat.le_of_eq hl.symm)
  have hv := (eqN_iff _ _).mp hvalid
  have hk := (nodupN_iff _).mp hkeys
  have hnames : (genNames fuel keys).Nodup := by
    have h1 : ((genNames fuel keys).map encodeName).Nodup := by rw [hv]; exact hk
    unfold List.Nodup at h1 ⊢
    rw [List.pairwise_map] at h1
    exact h1.imp (fun h e => h (congrArg encodeName e))
  have hc : codes.Nodup := by
    rcases Bool.or_eq_true _ _ |>.mp hcodes with h | h
    · exact sortedN_nodup _ h
    · exact (nodupN_iff _).mp h
  simp only [Bool.and_eq_true, notInN_iff] at hres
  have hnot : ∀ nm : Name, encodeName nm ∉ keys → nm ∉ genNames fuel keys := by
    intro nm h hm
    apply h
    rw [← hv]
    exact List.mem_map_of_mem hm
  apply tableBijective_of
  · rw [hfst]; exact hc
  · rw [hsnd]; exact hnames
  · intro e he
    have : e.1 ∈ codes := hfst ▸ List.mem_map_of_mem (f := (·.1)) he
    exact (allBelowN_iff _ _).mp hbelow _ this
  · rw [hsnd]; exact hnot _ hres.1
  · rw [hsnd]; exact hnot _ hres.2

end Nx.Nex
