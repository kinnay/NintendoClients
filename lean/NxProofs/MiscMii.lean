import NxModel.Misc.Mii
import NxProofs.MiscBits
import NxProofs.MiscCrc
/-! `MiiData.parse (MiiData.build m) = m` for all in-range attribute values, with a valid checksum -/
namespace Nx.Misc
open Nx.Crypto

/-- `repeat(v, stream.u8)` / `wchars`: a list written item by item through a `k`-bit writer is the concatenation of the
    items' bits and reads back in `k`-bit chunks -/
theorem encList_roundtrip (f : Nat → Except Err Bits) (k n : Nat) (vs : List Nat) (hn : vs.length = n)
    (h : ∀ x ∈ vs, f x = .ok (natToBits k x) ∧ x < 2 ^ k) :
    encList f vs = .ok (vs.flatMap (natToBits k)) ∧ (vs.flatMap (natToBits k)).length = k * n ∧
      (chunkBits k n (vs.flatMap (natToBits k))).map bitsToNat = vs := by
  subst hn
  induction vs with
  | nil => exact ⟨rfl, rfl, rfl⟩
  | cons v r ih =>
    obtain ⟨h1, h2, h3⟩ := ih fun x hx => h x (List.mem_cons_of_mem _ hx)
    obtain ⟨hv, hlt⟩ := h v List.mem_cons_self
    refine ⟨by simp only [encList, hv, h1, List.flatMap_cons], by simp [natToBits_length, h2, Nat.mul_succ]; omega, ?_⟩
    simp only [List.length_cons, chunkBits, List.flatMap_cons, List.map_cons]
    rw [List.take_left' (natToBits_length k v), List.drop_left' (natToBits_length k v), h3,
      bitsToNat_natToBits_of_lt k v hlt]

theorem takeWhile_ne_zero_pad (cs : List Nat) (m : Nat) (h : ∀ c ∈ cs, c ≠ 0) :
    (cs ++ List.replicate m 0).takeWhile (· ≠ 0) = cs := by
  rw [List.takeWhile_append_of_pos (by simpa using h)]; simp

theorem field_roundtrip (k : Kind) (v : Val) (h : v.InRange k) :
    ∃ bs, encField k v = .ok bs ∧ bs.length = k.width ∧ decField k bs = v := by
  cases k <;> cases v <;> simp only [Val.InRange] at h
  case bits.n w v =>
    exact ⟨_, rfl, natToBits_length w v, congrArg Val.n (bitsToNat_natToBits_of_lt w v h)⟩
  case bit.n v | flag.n v =>
    -- a flag that is 0 or 1 is its own truthiness
    obtain rfl | rfl : v = 0 ∨ v = 1 := by omega
    all_goals exact ⟨_, rfl, rfl, rfl⟩
  case flagBits.n w v =>
    have hw : 1 < 2 ^ w := Nat.one_lt_two_pow (by omega)
    obtain rfl | rfl : v = 0 ∨ v = 1 := by omega
    all_goals exact ⟨_, rfl, natToBits_length w _, congrArg (Val.n ∘ toFlag) (bitsToNat_natToBits_of_lt w _ (by omega))⟩
  case u8.n v =>
    exact ⟨_, if_pos h, natToBits_length 8 v, congrArg Val.n (bitsToNat_natToBits_of_lt 8 v h)⟩
  case u8s.l n vs | raw.l n vs =>
    obtain ⟨h1, h2, h3⟩ := encList_roundtrip encU8 8 n vs h.1 fun x hx => ⟨if_pos (h.2 x hx), h.2 x hx⟩
    exact ⟨_, h1, h2, congrArg Val.l h3⟩
  case wstr.l n cs =>
    obtain ⟨hl, hr⟩ := h
    have hall : ∀ x ∈ cs ++ List.replicate (n - cs.length) 0, x < 65536 := by
      intro x hx
      rcases List.mem_append.mp hx with hx | hx
      · exact (hr x hx).1
      · rw [List.mem_replicate] at hx; omega
    obtain ⟨h1, h2, h3⟩ := encList_roundtrip encU16 16 n _ (by rw [List.length_append, List.length_replicate]; omega)
      fun x hx => ⟨if_pos (hall x hx), hall x hx⟩
    exact ⟨_, h1, h2, by simp only [decField]; rw [h3, takeWhile_ne_zero_pad _ _ fun c hc => (hr c hc).2]⟩

theorem layoutWidth_cons (f : Field) (fs : List Field) : layoutWidth (f :: fs) = f.kind.width + layoutWidth fs := by
  simp only [layoutWidth, ← List.sum_eq_foldl, List.map_cons, List.sum_cons]

theorem fields_roundtrip (L : List Field) (vals : List Val) (h : ValsInRange L vals) :
    ∃ bits, encFields L vals = .ok bits ∧ bits.length = layoutWidth L ∧
      ∀ rest, decFields L (bits ++ rest) = .ok (vals, rest) := by
  fun_induction ValsInRange L vals with
  | case1 => exact ⟨[], rfl, rfl, fun _ => rfl⟩
  | case2 f fs v vs ih =>
    obtain ⟨b, hb, hbl, hbd⟩ := field_roundtrip f.kind v h.1
    obtain ⟨br, hbr, hbrl, hbrd⟩ := ih h.2
    refine ⟨b ++ br, by simp [encFields, hb, hbr], by simp [layoutWidth_cons, hbl, hbrl], ?_⟩
    intro rest
    simp only [decFields, List.length_append, List.append_assoc]
    rw [if_neg (by omega), List.drop_left' hbl, List.take_left' hbl, hbrd rest, hbd]
  | case3 => exact h.elim

theorem revEach_length (k cnt : Nat) (d : Bytes) : (revEach k cnt d).length = d.length := by
  induction cnt generalizing d with
  | zero => rfl
  | succ n ih => rw [revEach, List.length_append, List.length_reverse, ih, ← List.length_append, List.take_append_drop]

theorem revEach_invol (k cnt : Nat) (d : Bytes) (h : d.length = k * cnt) :
    revEach k cnt (revEach k cnt d) = d := by
  induction cnt generalizing d with
  | zero => rfl
  | succ n ih =>
    have hk : k ≤ d.length := by rw [h, Nat.mul_succ]; omega
    have hA : (d.take k).reverse.length = k := by rw [List.length_reverse, List.length_take_of_le hk]
    simp only [revEach]
    rw [List.take_left' hA, List.drop_left' hA, List.reverse_reverse,
      ih (d.drop k) (by rw [List.length_drop, h, Nat.mul_succ, Nat.add_sub_cancel]), List.take_append_drop]

theorem swapRegions_length (rs : List (Nat × Nat)) (d : Bytes) : (swapRegions rs d).length = d.length := by
  induction rs generalizing d with
  | nil => rfl
  | cons r rs ih =>
    rw [swapRegions, List.length_append, revEach_length, ih, ← List.length_append, List.take_append_drop]

theorem swapRegions_invol (rs : List (Nat × Nat)) (d : Bytes) (h : regionsSize rs ≤ d.length) :
    swapRegions rs (swapRegions rs d) = d := by
  induction rs generalizing d with
  | nil => rfl
  | cons r rs ih =>
    obtain ⟨k, cnt⟩ := r
    simp only [regionsSize] at h
    have hA : (revEach k cnt (d.take (k * cnt))).length = k * cnt := by
      rw [revEach_length, List.length_take_of_le (by omega)]
    simp only [swapRegions]
    rw [List.take_left' hA, List.drop_left' hA, revEach_invol _ _ _ (List.length_take_of_le (by omega)),
      ih _ (by rw [List.length_drop]; omega), List.take_append_drop]

theorem swapRegions_append (rs : List (Nat × Nat)) (x t : Bytes) (h : regionsSize rs ≤ x.length) :
    swapRegions rs (x ++ t) = swapRegions rs x ++ t := by
  induction rs generalizing x with
  | nil => rfl
  | cons r rs ih =>
    simp only [regionsSize] at h
    simp only [swapRegions]
    rw [List.take_append_of_le_length (by omega), List.drop_append_of_le_length (by omega),
      ih _ (by rw [List.length_drop]; omega), List.append_assoc]

theorem swapEndian_of_le (d : Bytes) (h : regionsSize miiRegions ≤ d.length) :
    swapEndian d = .ok (swapRegions miiRegions d) := by
  rw [swapEndian, if_neg (by omega)]

theorem miiLayout_width : layoutWidth miiLayout = 752 := by decide

theorem regionsSize_miiRegions : regionsSize miiRegions = 94 := by decide

theorem decFields_total (L : List Field) (bs : Bits) (h : layoutWidth L ≤ bs.length) :
    ∃ vs rest, decFields L bs = .ok (vs, rest) ∧ rest.length = bs.length - layoutWidth L := by
  induction L generalizing bs with
  | nil => exact ⟨[], bs, rfl, by simp [layoutWidth]⟩
  | cons f fs ih =>
    rw [layoutWidth_cons] at h
    obtain ⟨vs, rest, h1, h2⟩ := ih (bs.drop f.kind.width) (by rw [List.length_drop]; omega)
    refine ⟨_, rest, by simp only [decFields]; rw [if_neg (by omega), h1], ?_⟩
    rw [h2, List.length_drop, layoutWidth_cons]; omega

/-- on exactly 0x60 bytes `parse` reads the whole buffer, `swap_endian` and the 68 reads cannot fail and 16 bits are left for
    the checksum field: only the checksum decides -/
theorem miiParse_of_length (b : Bytes) (h : b.length = 0x60) :
    ∃ vals rest, decFields miiLayout (unpackBits (swapRegions miiRegions b)) = .ok (vals, rest) ∧
      miiParse b = if miiCrc16 b ≠ 0 then .error .value else .ok vals := by
  have hlen : (unpackBits (swapRegions miiRegions b)).length = 752 + 16 := by
    rw [unpackBits_length, swapRegions_length, h]
  obtain ⟨vals, rest, h1, h2⟩ := decFields_total miiLayout _ (by rw [hlen, miiLayout_width]; decide)
  have hrd : rd 0x60 b = .ok (b, []) := by have := rd_append' b [] h; rwa [List.append_nil] at this
  refine ⟨vals, rest, h1, ?_⟩
  simp only [miiParse, hrd, swapEndian_of_le b (by rw [regionsSize_miiRegions]; omega), h1]
  rw [if_neg (by rw [h2, hlen, miiLayout_width]; decide)]

theorem mii_parse_build (vals : List Val) (h : ValsInRange miiLayout vals) :
    ∃ b, miiBuild vals = .ok b ∧ b.length = 0x60 ∧ miiCrc16 b = 0 ∧ miiParse b = .ok vals := by
  obtain ⟨bits, he, hl, hd⟩ := fields_roundtrip miiLayout vals h
  rw [miiLayout_width] at hl
  have hp8 : bits.length % 8 = 0 := by rw [hl]
  have hpl : (packBits bits).length = 94 := by have := pack_length bits hp8; omega
  have hR := regionsSize_miiRegions
  have hsw := swapEndian_of_le (packBits bits) (by omega)
  generalize hD : swapRegions miiRegions (packBits bits) = D at hsw
  have hDl : D.length = 94 := by rw [← hD, swapRegions_length, hpl]
  have hcrc : miiCrc16 (D ++ u16be (miiCrc16 (D ++ [0, 0]))) = 0 := miiCrc16_valid D
  generalize hc : miiCrc16 (D ++ [0, 0]) = c at hcrc
  have hbl : (D ++ u16be c).length = 96 := by simp [hDl, u16be]
  refine ⟨D ++ u16be c, by simp only [miiBuild, he, hsw, hc], hbl, hcrc, ?_⟩
  obtain ⟨vals', rest, hdec, hp⟩ := miiParse_of_length _ hbl
  have hinv : swapRegions miiRegions D = packBits bits := by rw [← hD, swapRegions_invol _ _ (by omega)]
  rw [swapRegions_append _ _ _ (by omega), hinv, unpackBits_append, unpack_pack bits hp8, hd] at hdec
  cases hdec
  rw [hp, if_neg (by simpa using hcrc)]

end Nx.Misc
