import NxProofs.Channel
/-! RC4-like stream ciphers satisfy `CipherOk` for every key stream -/
namespace Nx.Chan

/-- xor with the key stream starting at position `p` (what ARC4 does with its running state) -/
def xorAt (ks : Nat → UInt8) (p : Nat) : Bytes → Bytes
  | [] => []
  | x :: r => (x ^^^ ks p) :: xorAt ks (p + 1) r

def xorCipher (ks : Nat → UInt8) : Cipher := ⟨xorAt ks, xorAt ks⟩

theorem xorAt_involutive (ks : Nat → UInt8) : ∀ (x : Bytes) (p : Nat), xorAt ks p (xorAt ks p x) = x := by
  intro x
  induction x with
  | nil => intro p; rfl
  | cons a r ih =>
    intro p
    simp only [xorAt, ih]
    rw [UInt8.xor_assoc, UInt8.xor_self, UInt8.xor_zero]

theorem xorAt_length (ks : Nat → UInt8) : ∀ (x : Bytes) (p : Nat), (xorAt ks p x).length = x.length := by
  intro x
  induction x with
  | nil => intro p; rfl
  | cons a r ih => intro p; simp [xorAt, ih]

theorem xorCipher_ok (ks : Nat → UInt8) : CipherOk (xorCipher ks) :=
  ⟨fun p x => xorAt_involutive ks x p, fun p x hx hc =>
    hx (List.eq_nil_of_length_eq_zero ((xorAt_length ks x p).symm.trans (congrArg List.length hc)))⟩

/-- no cipher at all (lite / stream transports) -/
def idCipher : Cipher := ⟨fun _ x => x, fun _ x => x⟩

theorem idCipher_ok : CipherOk idCipher := ⟨fun _ _ => rfl, fun _ _ h => h⟩

end Nx.Chan
