import NxModel.Crypto.Base64
import NxModel.Misc.Auth
import NxProofs.Bytes
/-! base64 as CPython does it: the lenient decoder inverts the encoder; the `-_` and nasc `.-*` variants too -/
namespace Nx.Crypto

theorem b64Val_b64Char : ∀ s < 64, b64Val (b64Char s) = some s := by decide +kernel
theorem b64Char_ne_pad : ∀ s < 64, b64Char s ≠ b64Pad := by decide +kernel

theorem a2bGo_char (s : Nat) (hs : s < 64) (r : Bytes) (quad left pads : Nat) (acc : Bytes) :
    a2bGo (b64Char s :: r) quad left pads acc = match quad with
      | 0 => a2bGo r 1 s 0 acc
      | 1 => a2bGo r 2 (s % 16) 0 (b8 (left * 4 + s / 16) :: acc)
      | 2 => a2bGo r 3 (s % 4) 0 (b8 (left * 16 + s / 4) :: acc)
      | _ => a2bGo r 0 0 0 (b8 (left * 64 + s) :: acc) := by
  rw [a2bGo, if_neg (b64Char_ne_pad s hs), b64Val_b64Char s hs]; rfl

/-- three bytes are four sextets; a shorter tail is the same with zero bytes after it -/
theorem sextets (a b c : UInt8) :
    (a.toNat / 4 < 64 ∧ a.toNat % 4 * 16 + b.toNat / 16 < 64 ∧ b.toNat % 16 * 4 + c.toNat / 64 < 64 ∧ c.toNat % 64 < 64) ∧
    a.toNat / 4 * 4 + (a.toNat % 4 * 16 + b.toNat / 16) / 16 = a.toNat ∧
    (a.toNat % 4 * 16 + b.toNat / 16) % 16 * 16 + (b.toNat % 16 * 4 + c.toNat / 64) / 4 = b.toNat ∧
    (b.toNat % 16 * 4 + c.toNat / 64) % 4 * 64 + c.toNat % 64 = c.toNat := by
  have ha := a.toNat_lt; have hb := b.toNat_lt; have hc := c.toNat_lt
  omega

/-- **decode ∘ encode = id**, from any state the decoder can be in at a quad boundary -/
theorem a2bGo_b2a (d : Bytes) (left pads : Nat) (acc : Bytes) :
    a2bGo (b2a d) 0 left pads acc = .ok (acc.reverse ++ d) := by
  fun_induction b2a d generalizing left pads acc with
  | case1 a b c r ih =>
    obtain ⟨⟨h0, h1, h2, h3⟩, e1, e2, e3⟩ := sextets a b c
    simp only [a2bGo_char _ h0, a2bGo_char _ h1, a2bGo_char _ h2, a2bGo_char _ h3, ih, e1, e2, e3, b8_toNat_self]
    simp
  | case2 a b =>
    have h := sextets a b 0
    simp only [UInt8.toNat_zero, Nat.zero_div, Nat.add_zero] at h
    obtain ⟨⟨h0, h1, h2, -⟩, e1, e2, -⟩ := h
    simp only [a2bGo_char _ h0, a2bGo_char _ h1, a2bGo_char _ h2, e1, e2, b8_toNat_self]
    simp [a2bGo]
  | case3 a =>
    have h := sextets a 0 0
    simp only [UInt8.toNat_zero, Nat.zero_div, Nat.add_zero] at h
    obtain ⟨⟨h0, h1, -, -⟩, e1, -, -⟩ := h
    simp only [a2bGo_char _ h0, a2bGo_char _ h1, e1, b8_toNat_self]
    simp [a2bGo]
  | case4 => simp [a2bGo]

theorem a2b_b2a (d : Bytes) : a2b (b2a d) = .ok d := by
  unfold a2b; rw [a2bGo_b2a]; rfl

theorem b2a_length (d : Bytes) : (b2a d).length = 4 * ((d.length + 2) / 3) := by
  fun_induction b2a d <;> simp_all <;> omega

theorem b2a_form (d : Bytes) : ∃ ss : List Nat,
    b2a d = ss.map b64Char ++ List.replicate ((4 - ss.length % 4) % 4) b64Pad ∧ ∀ s ∈ ss, s < 64 := by
  fun_induction b2a d with
  | case1 a b c r ih =>
    obtain ⟨ss, h1, h2⟩ := ih
    obtain ⟨⟨s0, s1, s2, s3⟩, -⟩ := sextets a b c
    exact ⟨_ :: _ :: _ :: _ :: ss,
      by rw [h1, show (_ :: _ :: _ :: _ :: ss).length = ss.length + 4 from rfl, Nat.add_mod_right]; rfl,
      by simpa only [List.forall_mem_cons] using ⟨s0, s1, s2, s3, h2⟩⟩
  | case2 a b =>
    obtain ⟨⟨h0, h1, h2, -⟩, -⟩ := sextets a b 0
    exact ⟨[_, _, _], rfl, by simpa using ⟨h0, h1, h2⟩⟩
  | case3 a =>
    obtain ⟨⟨h0, h1, -, -⟩, -⟩ := sextets a 0 0
    exact ⟨[_, _], rfl, by simpa using ⟨h0, h1⟩⟩
  | case4 => exact ⟨[], rfl, by simp⟩

theorem b2a_map_map (f g : UInt8 → UInt8) (hc : ∀ s < 64, g (f (b64Char s)) = b64Char s)
    (hp : g (f b64Pad) = b64Pad) (d : Bytes) : ((b2a d).map f).map g = b2a d := by
  obtain ⟨ss, h1, h2⟩ := b2a_form d
  rw [h1, List.map_append, List.map_append, List.map_replicate, List.map_replicate, hp, List.map_map, List.map_map]
  congr 1
  exact List.map_congr_left fun s hs => hc s (h2 s hs)

theorem url_inv : ∀ s < 64, urlToStd (stdToUrl (b64Char s)) = b64Char s := by decide +kernel

theorem b64url_roundtrip (d : Bytes) : b64urlDecode (b64urlEncode d) = .ok d := by
  rw [b64urlDecode, b64urlEncode, b2a_map_map _ _ url_inv (by decide), a2b_b2a]

theorem url_ne_pad : ∀ s < 64, stdToUrl (b64Char s) ≠ b64Pad := by decide +kernel

theorem rstripPad_append_pads (l : Bytes) (k : Nat) (h : ∀ c ∈ l, c ≠ b64Pad) :
    rstripPad (l ++ List.replicate k b64Pad) = l := by
  unfold rstripPad
  rw [List.reverse_append, List.reverse_replicate,
    List.dropWhile_append_of_pos fun a ha => by simp [List.eq_of_mem_replicate ha]]
  have : l.reverse.dropWhile (· = b64Pad) = l.reverse := by
    cases hl : l.reverse with
    | nil => rfl
    | cons x xs =>
      have hx : x ≠ b64Pad := h x (by rw [← List.mem_reverse, hl]; exact List.mem_cons_self)
      simp [hx]
  rw [this, List.reverse_reverse]

theorem b64url_nopad_roundtrip (d : Bytes) : b64urlDecodeRepad (b64urlEncodeNoPad d) = .ok d := by
  obtain ⟨ss, h1, h2⟩ := b2a_form d
  have henc : b64urlEncode d = (ss.map b64Char).map stdToUrl ++ List.replicate ((4 - ss.length % 4) % 4) b64Pad := by
    rw [b64urlEncode, h1, List.map_append, List.map_replicate]; rfl
  have hstrip : b64urlEncodeNoPad d = (ss.map b64Char).map stdToUrl := by
    rw [b64urlEncodeNoPad, henc, rstripPad_append_pads]
    simp only [List.map_map, List.mem_map]
    rintro _ ⟨s, hs, rfl⟩
    exact url_ne_pad s (h2 s hs)
  rw [b64urlDecodeRepad, hstrip, ← b64url_roundtrip d, henc]
  simp only [List.length_map]
  by_cases h : ss.length % 4 = 0
  · rw [h]; exact congrArg _ (List.append_nil _).symm  -- `(4 - 0) % 4` pads are none
  · rw [if_pos h, Nat.mod_eq_of_lt (Nat.sub_lt (by decide) (Nat.pos_of_ne_zero h))]

end Nx.Crypto

namespace Nx.Misc
open Nx.Crypto

theorem nasc_inv : ∀ s < 64, nascBack (nascFwd (b64Char s)) = b64Char s := by decide +kernel

theorem nascDecode_nascEncode (d : Bytes) : nascDecode (nascEncode d) = .ok d := by
  rw [nascDecode, nascEncode, b2a_map_map _ _ nasc_inv (by decide), a2b_b2a]

theorem nascForm_roundtrip (f : List (Bytes × Bytes)) : nascDecodeForm (nascEncodeForm f) = .ok f := by
  induction f with
  | nil => rfl
  | cons kv r ih =>
    unfold nascEncodeForm at ih ⊢
    simp only [List.map_cons, nascDecodeForm, nascDecode_nascEncode, ih]

theorem nascEncode_length (d : Bytes) : (nascEncode d).length = (b2a d).length := by
  simp [nascEncode]

/-! ### a coding applied twice is not the coding: base64 (and so the nasc `.-*` variant) strictly lengthens every non-empty byte string -/

theorem nascEncode_longer (d : Bytes) (h : d ≠ []) : d.length < (nascEncode d).length := by
  have := List.length_pos_iff.mpr h
  rw [nascEncode_length, b2a_length]; omega

theorem nascEncode_ne_self (d : Bytes) (h : d ≠ []) : nascEncode d ≠ d :=
  fun e => Nat.lt_irrefl _ (e ▸ nascEncode_longer d h)

theorem nascEncode_ne_nil (d : Bytes) (h : d ≠ []) : nascEncode d ≠ [] :=
  fun e => Nat.not_lt_zero _ (e ▸ nascEncode_longer d h)

end Nx.Misc
