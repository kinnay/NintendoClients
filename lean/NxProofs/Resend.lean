import NxProofs.Timers
import NxProofs.Roles
/-!
# C01 / C08 — a retransmission is a copy: the timers only ever hold packets that were handed to the transport

`resendsOf c` = the packets stored in the pending retransmission timers of `c`. The send path stores nothing but what it emits
(`ResFr`), everything else stores nothing (`ResSub`), and a fired retransmission timer emits the stored packet itself, not a
re-encoding (`fire_resend`). In `NxProofs/Sys.lean` the sender's retransmissions are therefore re-deliveries of elements of
`net`, which is what the L2 adversary (any copy of any log entry, any number of times) assumes.
-/
namespace Nx.L1
open Nx.Prudp Nx.Chan

theorem transmit_resFr (env : Env) (now : Time) (c : Conn) (p : Packet) : ResFr c (c.transmit env now p).c (emitted (c.transmit env now p)) := by
  unfold Conn.transmit
  by_cases hl : (!c.linkUp) = true
  · rw [if_pos hl]; exact (cleanup_resSub c).resFr _
  rw [if_neg hl]
  cases encodeChecked env.cfg p with
  | error e => exact resFr_refl c _
  | ok data =>
    by_cases hw : ((hasReliable p.flags || p.type == TYPE_SYN) && hasNeedAck p.flags) = true
    · rw [if_pos hw]; exact arm_resFr c now p 0
    · rw [if_neg hw]; exact resFr_refl c _

theorem sendPacket_resFr (env : Env) (now : Time) (c : Conn) (p : Packet) :
    ResFr c (c.sendPacket env now p).c (emitted (c.sendPacket env now p)) := by
  have hsub : ∀ {x : Conn}, Steps (idLoc p.flags p.substreamId) c x → ResSub c x := fun h =>
    h.frame resSub_refl resSub_trans fun u c hu => ResSub.upd u c (by rcases hu with ⟨_, h | h⟩ <;> rw [h] <;> trivial)
  rcases sendPacket_cases env now c p with ⟨_, _, h⟩ | ⟨c2, q, h, _, _, _, heq⟩
  · exact (hsub h).resFr _
  · rw [heq]
    exact fun x hx => (transmit_resFr env now c2 q x hx).imp_left (hsub h x)

theorem resFr_bind (c : Conn) (r : R) (f : Conn → R) (hr : ResFr c r.c (emitted r)) (hf : ∀ x, ResFr x (f x).c (emitted (f x))) :
    ResFr c (r.bind f).c (emitted (r.bind f)) := by
  cases he : r.err with
  | some e => rw [R.bind_err f he]; exact hr
  | none =>
    rw [emitted_bind_ok _ _ he, (R.bind_ok _ _ he).2]
    exact resFr_trans hr (hf _)

theorem sendFrags_resFr (env : Env) (now : Time) (sub : Nat) : ∀ (fs : List Frag) (c : Conn),
    ResFr c (Conn.sendFrags env now sub fs c).c (emitted (Conn.sendFrags env now sub fs c)) := by
  intro fs
  induction fs with
  | nil => intro c; exact resFr_refl c _
  | cons f fs ih =>
    intro c
    exact resFr_bind c _ _ (sendPacket_resFr env now c _) ih

theorem send_resFr (env : Env) (now : Time) (c : Conn) (data : Bytes) (sub : Nat) :
    ResFr c (c.send env now data sub).c (emitted (c.send env now data sub)) := by
  unfold Conn.send
  split
  · exact resFr_refl c _
  · split
    · exact resFr_refl c _
    · exact sendFrags_resFr env now sub _ c

theorem disconnect_resFr (env : Env) (now : Time) (c : Conn) :
    ResFr c (c.disconnect env now).c (emitted (c.disconnect env now)) := by
  unfold Conn.disconnect
  split
  · exact resFr_refl c _
  · exact sendPacket_resFr env now ({ c with state := STATE_DISCONNECTING } : Conn) (mkPacket TYPE_DISCONNECT (FLAG_RELIABLE + FLAG_NEED_ACK))

theorem handle_ordinary_resSub (env : Env) (now : Time) (c : Conn) (p : Packet) (ho : Ordinary p) : ResSub c (c.handle env now p).c :=
  (handle_noack_steps env now c p ho.nsyn ho.ncon ho.nack ho.nmulti).frame resSub_refl resSub_trans
    fun u c hu => ResSub.upd u c (by rcases hu with h | h | ⟨_, _, h⟩ <;> rw [h] <;> trivial)

theorem handle_ack_resSub (env : Env) (now : Time) (c : Conn) (p : Packet) (hack : (hasAck p.flags || hasMultiAck p.flags) = true)
    (hns : p.type ≠ TYPE_SYN) (hnc : p.type ≠ TYPE_CONNECT) : ResSub c (c.handle env now p).c :=
  (handle_ack_steps env now c p hack hns hnc).frame resSub_refl resSub_trans
    fun u c hu => ResSub.upd u c (by rcases hu with h | ⟨h, _⟩ <;> rw [h] <;> trivial)

theorem fire_resend (env : Env) (now : Time) (c : Conn) (p : Packet) (k : Nat) :
    (∀ q ∈ emitted (c.fireOne env now (.resend p k)), q = p) ∧ ResFr c (c.fireOne env now (.resend p k)).c [p] ∧
    (∀ sub, SendFr c (c.fireOne env now (.resend p k)).c sub) := by
  rw [fireOne_resend]
  rcases resendPacket_cases env now c p k with e | ⟨_, e⟩ <;> rw [e]
  · exact ⟨(fun q hq => by rw [cleanup_emits_nothing] at hq; cases hq), (cleanup_resSub c).resFr _, fun sub => cleanup_sendFr c sub⟩
  · exact ⟨(fun q hq => by simpa [emitted, R.ok] using hq), arm_resFr c now p (k + 1), fun sub => arm_sendFr c now p (k + 1) sub⟩

/-- a retransmission within the budget on a live link re-arms the timer and emits the stored packet: nothing of the receiver
    role moves -/
theorem fireOne_resend_recvFr (env : Env) (now : Time) (c : Conn) (p : Packet) (k sub : Nat)
    (hk : k < c.resendLimit) (hl : c.linkUp = true) : RecvFr c (c.fireOne env now (.resend p k)).c sub := by
  rw [fireOne_resend, resend_step_below env now c p k hk hl]
  exact arm_recvFr c now p (k + 1) sub

end Nx.L1
