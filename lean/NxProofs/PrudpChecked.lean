import NxProofs.PrudpV1
import NxProofs.PrudpLite
/-! on well-formed packets the checked encoders (which mirror Python's exceptions) succeed with the total encoders' bytes -/
namespace Nx.Prudp

theorem encodeOptionsErr_none (o : Opts) (h : ∀ kv ∈ o, OptEntryWF kv.1 kv.2) : encodeOptionsErr o = none := by
  induction o with
  | nil => rfl
  | cons kv o ih =>
    obtain ⟨k, v⟩ := kv
    have hkv : OptEntryWF k v := h (k, v) (by simp)
    have : encodeOptionErr k v = none := by
      obtain ⟨s, f, x, hk, hv⟩ := OptEntryWF_iff.mp hkv
      unfold encodeOptionErr
      rw [hk]
      cases hv with
      | S16 _ _ => rfl
      | I n hn => exact if_pos hn
      | B n hn => exact if_pos hn
      | H n hn => exact if_pos hn
    simp only [encodeOptionsErr, this]
    exact ih (fun kv hm => h kv (by simp [hm]))

theorem v0EncodeChecked_wf (c : V0Cfg) (p : Packet) (h : V0WF c p) : v0EncodeChecked c p = .ok (v0Encode c p) := by
  obtain ⟨-, hst, hsp, hdt, hdp, htf, hse, hpid, hsig, hcs, hfr, -, -, -, -, -, hpl⟩ := h
  obtain ⟨sg, hsg, -⟩ := optLen_some hsig
  -- the ten tests of `v0EncodeErr`, in its order
  have t1 : ¬ pyOr p.sourcePort p.sourceType 4 ≥ 256 := by rw [pyOr4 _ hsp]; omega
  have t2 : ¬ pyOr p.destPort p.destType 4 ≥ 256 := by rw [pyOr4 _ hdp]; omega
  have t3 : ¬ (c.flagsVersion = 0 ∧ pyOr p.type p.flags 3 ≥ 256) := by
    intro ⟨a, b⟩; rw [if_pos a] at htf; rw [pyOr3 _ htf.1] at b; omega
  have t4 : ¬ (c.flagsVersion ≠ 0 ∧ pyOr p.type p.flags 4 ≥ 65536) := by
    intro ⟨a, b⟩; rw [if_neg a] at htf; rw [pyOr4 _ htf.1] at b; omega
  have t5 : ¬ p.sessionId ≥ 256 := by omega
  have t6 : ¬ p.signature = none := by rw [hsg]; exact nofun
  have t7 : ¬ p.packetId ≥ 65536 := by omega
  have t8 : ¬ (isSynOrConnect p.type = true ∧ p.connectionSignature = none) := by
    intro ⟨a, b⟩; rw [if_pos a] at hcs; obtain ⟨x, hx, -⟩ := optLen_some hcs; rw [hx] at b; cases b
  have t9 : ¬ (p.type = 2 ∧ p.fragmentId ≥ 256) := by
    intro ⟨a, b⟩; rw [if_pos a] at hfr; omega
  have t10 : ¬ (hasSize p.flags = true ∧ p.payload.length ≥ 65536) := by
    intro ⟨a, b⟩; have := hpl a; omega
  rw [v0EncodeChecked, v0EncodeErr, if_neg t1, if_neg t2, if_neg t3, if_neg t4, if_neg t5, if_neg t6, if_neg t7, if_neg t8,
    if_neg t9, if_neg t10]

theorem v1EncodeChecked_wf (p : Packet) (h : V1WF p) : v1EncodeChecked p = .ok (v1Encode p) := by
  have ho := encodeOptionsErr_none _ (v1Options_spec p h).1.2
  obtain ⟨hver, hst, hsp, hdt, hdp, hty, hfl, hse, hsub, hpid, hsig, hpl, -, -, -⟩ := h
  obtain ⟨sg, hsg, hsgl⟩ := optLen_some hsig
  have : v1HeaderErr p = none := by
    unfold v1HeaderErr
    rw [pyOr4 _ hsp, pyOr4 _ hdp, pyOr4 _ hty]
    rw [if_neg (by omega), if_neg (by omega), if_neg (by omega), if_neg (by omega), if_neg (by omega), if_neg (by omega),
      if_neg (by omega)]
  simp [v1EncodeChecked, v1EncodeErr, ho, this, hsg]

theorem liteEncodeChecked_wf (p : Packet) (h : LiteWF p) : liteEncodeChecked p = .ok (liteEncode p) := by
  have ho := encodeOptionsErr_none _ (liteOptions_spec p h).1.2
  obtain ⟨-, hst, hdt, hsp, hdp, hfr, hty, hfl, hpid, -, -, -, -, hpl, -⟩ := h
  have : liteHeaderErr p = none := by
    unfold liteHeaderErr
    rw [shl4_or _ hdt, pyOr4 _ hty]
    rw [if_neg (by omega), if_neg (by omega), if_neg (by omega), if_neg (by omega), if_neg (by omega), if_neg (by omega),
      if_neg (by omega)]
  simp [liteEncodeChecked, liteEncodeErr, ho, this]

end Nx.Prudp
