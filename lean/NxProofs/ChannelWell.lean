import NxProofs.Channel
/-!
# C01 — the receiver only ever decodes what the sender encoded, at the position where it was encoded

With compression on, decoding can *fail* (`zlib.decompress` raises), and an exception inside `process_reliable` leaves a window
that has advanced past packets whose payload was never handed on. So the refinement of the endpoint to the channel needs: no
decode in the release loop meets anything but a genuine encoding at the matching cipher position (`Core.wellAt`). The log has
this from the initial core (`logWell_step`: new wires are produced at `encPos`, where by `SndInv` the core stands after the whole
log), hence what the window releases has it from the receiver's core (`released_well`: the initial one after `log.take nrel`).
-/
namespace Nx.Chan

/-- every data wire of the list that the core reaches while open is empty or `c.enc` *at the position the core has then* -/
def Core.wellAt (c : Cipher) : Core → List Wire → Prop
  | _, [] => True
  | r, w :: ws =>
    r.closed = true ∨
    (match w.kind with
     | .data fid => (w.cipher = [] ∨ ∃ x, w.cipher = c.enc r.decPos x) ∧
         Core.wellAt c { r with decPos := r.decPos + w.cipher.length,
                                reasm := r.reasm.absorb fid (if w.cipher.isEmpty then w.cipher else c.dec r.decPos w.cipher) } ws
     | .ping => Core.wellAt c r ws
     | .disconnect => True)

theorem wellAt_of_closed (c : Cipher) (r : Core) (l : List Wire) (h : r.closed = true) : Core.wellAt c r l := by
  cases l with
  | nil => trivial
  | cons w ws => exact Or.inl h

theorem wellAt_append (c : Cipher) (a b : List Wire) (r : Core) :
    Core.wellAt c r (a ++ b) ↔ (Core.wellAt c r a ∧ Core.wellAt c (Core.consume c r a) b) := by
  fun_induction Core.consume c r a with
  | case1 r => simp [Core.wellAt]
  | case2 r w ws h => exact ⟨fun _ => ⟨Or.inl h, wellAt_of_closed c r b h⟩, fun _ => Or.inl h⟩
  | case3 r w ws h fid hk pt ih =>
    simp only [List.cons_append, Core.wellAt, hk, or_iff_right h, and_assoc]
    exact and_congr_right fun _ => ih
  | case4 r w ws h hk ih => simp only [List.cons_append, Core.wellAt, hk, or_iff_right h, ih]
  | case5 r w ws h hk =>
    simp only [List.cons_append, Core.wellAt, hk, or_iff_right h, true_and, wellAt_of_closed c { r with closed := true } b rfl]

theorem wellAt_wiresOf (c : Cipher) : ∀ (fs : List Frag) (id pos : Nat) (r : Core), r.decPos = pos →
    Core.wellAt c r (wiresOf c id pos fs) := by
  intro fs
  induction fs with
  | nil => intro id pos r _; trivial
  | cons f fs ih =>
    intro id pos r hp
    refine Or.inr ⟨?_, ?_⟩
    · by_cases he : f.data.isEmpty = true
      · left; simp only [he, if_true]; simpa using he
      · right; simp only [he, Bool.false_eq_true, if_false]; exact ⟨f.data, by rw [hp]⟩
    · apply ih
      rw [hp]

theorem consume_wiresOf_decPos (c : Cipher) : ∀ (fs : List Frag) (id pos : Nat) (r : Core), r.closed = false →
    (Core.consume c r (wiresOf c id pos fs)).decPos = r.decPos + wiresLen (wiresOf c id pos fs) := by
  intro fs
  induction fs with
  | nil => intro _ _ r _; rfl
  | cons f fs ih =>
    intro id pos r hcl
    simp only [wiresOf, Core.consume, hcl, Bool.false_eq_true, if_false, wiresLen]
    rw [ih _ _ _ rfl, Nat.add_assoc]

theorem sndInv_log_pos {c : Cipher} {start : Nat} {s : Sender} (h : SndInv c start s) (hcl : s.closing = false) :
    (Core.consume c core0 s.log).decPos = s.encPos := by
  have hl := congrArg Core.decPos (h.live hcl)
  rw [consume_append, consume_wiresOf_decPos c _ _ _ _ (sndInv_log_open h hcl)] at hl
  exact Nat.add_right_cancel hl

/-- **every step of the sender keeps the log well-encoded**: new wires are produced at `encPos`, which is where the core stands
    after the whole log; a ping or a DISCONNECT is not decoded -/
theorem logWell_step (c : Cipher) (size start : Nat) (ch : Chan) (op : Op) (h : SndInv c start ch.s)
    (hw : Core.wellAt c core0 ch.s.log) : Core.wellAt c core0 (step c size ch op).s.log := by
  obtain ⟨N, hN, ⟨fs, rfl⟩ | ⟨k, hk, rfl⟩⟩ := step_log c size ch op
  · rw [hN, wellAt_append]
    refine ⟨hw, ?_⟩
    -- a fragment emitted after `disconnect()` is behind the DISCONNECT and never decoded
    cases hcl : ch.s.closing with
    | true => exact wellAt_of_closed c _ _ (h.dead hcl).1
    | false => exact wellAt_wiresOf c _ _ _ _ (sndInv_log_pos h hcl)
  · rw [hN, wellAt_append]
    refine ⟨hw, Or.inr ?_⟩
    cases k with
    | data fid => exact absurd rfl (hk fid)
    | _ => trivial

/-- **what the window releases is well-encoded for the receiver's core** -/
theorem released_well (c : Cipher) (start : Nat) (ch : Chan) (j : Nat) (w : Wire)
    (hs : SndInv c start ch.s) (h : RcvInv c start ch) (hwell : Core.wellAt c core0 ch.s.log) (hw : ch.s.log[j]? = some w)
    (h1 : j < ch.r.nrel + 32768) (h2 : ch.r.nrel < j + 32768) (hcl' : ch.r.core.closed = false) :
    Core.wellAt c ch.r.core (ch.r.win.update w.id w).2 := by
  obtain ⟨r', hr', hrel, -⟩ := arrive_spec hs h hw h1 h2 hcl'
  rw [hrel, h.core]
  rw [← List.take_append_drop r' ch.s.log, ← take_append_take_drop _ hr', wellAt_append, wellAt_append] at hwell
  exact hwell.1.2

end Nx.Chan
