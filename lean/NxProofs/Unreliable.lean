import NxProofs.RefineSend
/-!
# C01 — "an unreliable message that is delivered is byte-identical to one that was sent", on the endpoint model

What `send_unreliable(data)` hands to the transport is a DATA packet without the RELIABLE flag whose payload is `data` under the
per-packet key (`make_unreliable_key`: the connection's unreliable base key modified by the packet's own sequence id and session
id). The key depends on the packet alone and the cipher always starts at position 0, so any endpoint holding the same base key
gets `data` back from this very packet, whatever else it has decoded before and in whatever order packets arrive.
-/
namespace Nx.L1
open Nx.Prudp

theorem mem_emitted_sendUnreliable {env : Env} {now : Time} {a : Conn} {data : Bytes} {q : Packet}
    (hq : q ∈ emitted (a.sendUnreliable env now data)) :
    q.type = TYPE_DATA ∧ q.flags = FLAG_NEED_ACK + FLAG_HAS_SIZE ∧
    q.payload = if data.isEmpty then data else
      if a.cipherOn then rc4At (makeUnreliableKey a.unrelKey q.packetId q.sessionId) 0 (env.compress data) else env.compress data := by
  have hnrel : hasReliable (FLAG_NEED_ACK + FLAG_HAS_SIZE) = false := by decide
  have hack : (hasAck (FLAG_NEED_ACK + FLAG_HAS_SIZE) || hasMultiAck (FLAG_NEED_ACK + FLAG_HAS_SIZE)) = false := by decide
  have hne : TYPE_DATA ≠ TYPE_SYN := by decide
  unfold Conn.sendUnreliable at hq
  split at hq
  · cases hq
  · simp only [Conn.sendPacket, mkPacket, hack, Conn.assignIf, Bool.false_eq_true, if_false, Conn.assign, hnrel, if_true, hne, ne_eq,
      not_false_eq_true, Conn.encodeIf, Bool.not_false, and_true, Conn.encodePayload] at hq
    by_cases hemp : data.isEmpty = true
    · simp only [hemp, Bool.not_true, Bool.false_eq_true, and_false, if_false] at hq
      rw [eq_of_mem_emitted_transmit hq, if_pos hemp]
      exact ⟨rfl, rfl, rfl⟩
    · simp only [hemp, Bool.not_false, and_self, if_true] at hq
      rw [if_neg hemp]
      cases hc : a.cipherOn with
      | true =>
        simp only [hc, if_true] at hq
        rw [eq_of_mem_emitted_transmit hq]
        exact ⟨rfl, rfl, rfl⟩
      | false =>
        simp only [hc, Bool.false_eq_true, if_false] at hq
        rw [eq_of_mem_emitted_transmit hq]
        exact ⟨rfl, rfl, rfl⟩

/-- **unreliable data, end to end**: every packet `send_unreliable(data)` emits decodes, at any endpoint with the same
    unreliable base key and cipher setting, to exactly `data` — and decoding it does not disturb that endpoint -/
theorem unreliable_end_to_end (env : Env) (hl : EnvLaws env)
    (now : Time) (a b : Conn) (data : Bytes) (hk : b.unrelKey = a.unrelKey) (hon : b.cipherOn = a.cipherOn) :
    ∀ q ∈ emitted (a.sendUnreliable env now data),
      q.type = TYPE_DATA ∧ hasReliable q.flags = false ∧ b.decodePayload env q = .ok (data, b) := by
  intro q hq
  obtain ⟨ht, hf, hp⟩ := mem_emitted_sendUnreliable hq
  have hnrel : hasReliable q.flags = false := by rw [hf]; decide
  refine ⟨ht, hnrel, ?_⟩
  by_cases hemp : data.isEmpty = true
  · -- an empty payload travels as it is
    rw [if_pos hemp] at hp
    rw [decodePayload_plain env b q (fun h => by rw [hp, hemp] at h; exact absurd h.2 (by decide)), hp]
  · rw [if_neg hemp] at hp
    have hcne : (env.compress data).isEmpty = false :=
      List.isEmpty_eq_false_iff.mpr (hl.nonempty data (fun h => hemp (by rw [h]; rfl)))
    have hne : (!q.payload.isEmpty) = true := by
      rw [hp]; cases a.cipherOn
      · rw [if_neg Bool.false_ne_true, hcne]; rfl
      · rw [if_pos rfl, rc4At_isEmpty, hcne]; rfl
    rw [decodePayload_unrel env b q ⟨ht, hne⟩ (by rw [hnrel]; exact Bool.false_ne_true), hon, hk, hp]
    cases a.cipherOn
    · simp only [Bool.false_eq_true, if_false, hl.round]
    · simp only [if_true, rc4At_involutive, hl.round]
end Nx.L1
