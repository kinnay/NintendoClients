import NxProofs.HandleForm
/-! C07: a datagram only touches the connections of its own source address and, on a stream transport, the reassembly
buffer of its own stream connection: the isolation of the server's tables. (The frame relations of the L1 channel — what an
operation of an endpoint leaves alone — are in `Roles.lean` and `SendPath.lean`.) -/
namespace Nx.L1
open Nx.Prudp

theorem streamLookup_eq : streamLookup = alookup := eq_alookup rfl rfl

theorem streamSet_eq : streamSet = aset := eq_aset rfl rfl

theorem streamLookup_set_same (k : Nat) (s : ServerStream) (l : List (Nat × ServerStream)) :
    streamLookup k (streamSet k s l) = some s := by
  rw [streamLookup_eq, streamSet_eq, alookup_aset_self]

theorem streamLookup_set_other (k k' : Nat) (s : ServerStream) (l : List (Nat × ServerStream)) (hne : k' ≠ k) :
    streamLookup k' (streamSet k s l) = streamLookup k' l := by
  rw [streamLookup_eq, streamSet_eq, alookup_aset_ne hne]

/-- the connections of other addresses, as seen through the client table of one stream -/
def SameOthers (addr : Addr) (a b : ServerStream) : Prop :=
  ∀ k : ClientKey, k.1 ≠ addr → clientLookup k a.clients = clientLookup k b.clients

theorem sameOthers_refl (addr : Addr) (a : ServerStream) : SameOthers addr a a := fun _ _ => rfl

theorem sameOthers_trans {addr : Addr} {a b c : ServerStream} (h1 : SameOthers addr a b) (h2 : SameOthers addr b c) :
    SameOthers addr a c := fun k hk => (h1 k hk).trans (h2 k hk)

theorem gate_s (up : Bool) (r : SR) : (r.gate up).s = r.s := by
  unfold SR.gate; split <;> rfl

theorem handle_frame_key (env : Env) (now : Time) (rnd : Rnd) (up : Bool) (s : ServerStream) (p : Packet) (addr : Addr) (k : ClientKey)
    (hne : k ≠ (addr, p.sourcePort, p.sourceType)) :
    clientLookup k (s.handle env now rnd up p addr).s.clients = clientLookup k s.clients := by
  unfold ServerStream.handle
  by_cases h1 : p.type = TYPE_SYN ∧ (!hasAck p.flags) = true
  · rw [if_pos h1, gate_s, server_syn_stateless]
  rw [if_neg h1]
  by_cases h2 : p.type = TYPE_CONNECT ∧ (!hasAck p.flags) = true
  · rw [if_pos h2]
    by_cases hpre : connectPrecheck env s p addr
    · have hv := ServerStream.processConnect_valid env now rnd up s p addr hpre
      simp only [] at hv
      cases hl : s.loginStep env now p _ _ with
      | error e => rw [hl] at hv; rw [hv]
      | ok v =>
        rw [hl] at hv; rw [hv.1]
        split
        · exact clientLookup_set_other _ _ _ _ hne
        · rfl
    · rw [ServerStream.processConnect_invalid env now rnd up s p addr hpre]
  · rw [if_neg h2]
    simp only []
    cases clientLookup (addr, p.sourcePort, p.sourceType) s.clients with
    | none => rfl
    | some c => exact clientLookup_set_other _ _ _ _ hne

theorem handle_frame (env : Env) (now : Time) (rnd : Rnd) (up : Bool) (s : ServerStream) (p : Packet) (addr : Addr) :
    SameOthers addr (s.handle env now rnd up p addr).s s :=
  fun k hk => handle_frame_key env now rnd up s p addr k fun e => hk (by rw [e])

/-- the connection with key `k` on the stream bound at port-table key `pk`, if any -/
def ServerT.conn (t : ServerT) (pk : Nat) (k : ClientKey) : Option Conn :=
  (streamLookup pk t.streams).bind (fun s => clientLookup k s.clients)

/-- what replacing a stream by what its `handle` returns keeps, the loop over the decoded packets keeps -/
theorem dispatch_invariant (env : Env) (now : Time) (rnd : Rnd) (addr : Addr) (I : ServerT → Prop)
    (hstep : ∀ (t : ServerT) (p : Packet) (s : ServerStream), streamLookup (portKey p.destPort p.destType) t.streams = some s → I t →
      I { t with streams := (streamSet (portKey p.destPort p.destType)
        (s.handle env now rnd (!t.isStream || t.links.contains addr) p addr).s t.streams) }) :
    ∀ (ps : List Packet) (t : ServerT), I t → I (ServerT.dispatch env now rnd addr ps t).t := by
  intro ps
  induction ps with
  | nil => exact fun t h => h
  | cons p ps ih =>
    intro t h
    unfold ServerT.dispatch
    cases hs : streamLookup (portKey p.destPort p.destType) t.streams with
    | none => exact h
    | some s =>
      simp only []
      split
      · exact hstep t p s hs h
      · exact ih _ (hstep t p s hs h)

theorem dispatch_frame (env : Env) (now : Time) (rnd : Rnd) (addr : Addr) (ps : List Packet) (t : ServerT) (pk : Nat) (k : ClientKey)
    (hk : k.1 ≠ addr) : (ServerT.dispatch env now rnd addr ps t).t.conn pk k = t.conn pk k := by
  refine dispatch_invariant env now rnd addr (·.conn pk k = t.conn pk k) (fun x p s hs h => ?_) ps t rfl
  rw [← h]
  unfold ServerT.conn
  by_cases hpk : pk = portKey p.destPort p.destType
  · subst hpk
    rw [streamLookup_set_same, hs]
    exact handle_frame env now rnd _ s p addr k hk
  · rw [streamLookup_set_other _ _ _ _ hpk]

/-- **frame theorem**: whatever bytes arrive from `addr` — valid, malformed, hostile — every connection whose remote
    address is not `addr`, on every virtual port, is exactly as before (state, windows, ciphers, timers, queues) -/
theorem processData_frame (env : Env) (now : Time) (rnd : Rnd) (t : ServerT) (data : Bytes) (addr : Addr)
    (pk : Nat) (k : ClientKey) (hk : k.1 ≠ addr) :
    (t.processData env now rnd data addr).t.conn pk k = t.conn pk k := by
  unfold ServerT.processData
  simp only []
  cases (decode env.cfg (if t.isStream = true then bufLookup addr t.liteBufs else t.liteBuf) data).1 with
  | error e => cases t.isStream <;> rfl
  | ok ps =>
    rw [dispatch_frame env now rnd addr ps _ pk k hk]
    cases t.isStream <;> rfl

theorem processData_isStream (env : Env) (now : Time) (rnd : Rnd) (t : ServerT) (data : Bytes) (addr : Addr) :
    (t.processData env now rnd data addr).t.isStream = t.isStream := by
  unfold ServerT.processData
  simp only []
  split
  · cases t.isStream <;> rfl
  · exact dispatch_invariant env now rnd addr (·.isStream = t.isStream) (fun _ _ _ _ h => h) _ _ (by cases t.isStream <;> rfl)

theorem bufLookup_eq (a : Addr) (l : List (Addr × Bytes)) : bufLookup a l = (alookup a l).getD [] := by
  induction l with
  | nil => rfl
  | cons x r ih => by_cases h : x.1 = a <;> simp [bufLookup, alookup, h, ih]

theorem bufSet_eq : bufSet = aset := eq_aset rfl rfl

theorem bufLookup_set_other (a a' : Addr) (b : Bytes) (l : List (Addr × Bytes)) (hne : a' ≠ a) :
    bufLookup a' (bufSet a b l) = bufLookup a' l := by
  rw [bufLookup_eq, bufLookup_eq, bufSet_eq, alookup_aset_ne hne]

/-- stream transports: the bytes one stream connection sends never touch the reassembly buffer of another
    (with the single shared buffer of the original code this was false: DESIGN §6 D4) -/
theorem processData_frame_buffers (env : Env) (now : Time) (rnd : Rnd) (t : ServerT) (data : Bytes) (addr other : Addr)
    (hs : t.isStream = true) (hne : other ≠ addr) :
    bufLookup other (t.processData env now rnd data addr).t.liteBufs = bufLookup other t.liteBufs := by
  unfold ServerT.processData
  simp only [hs, if_true]
  cases (decode env.cfg (bufLookup addr t.liteBufs) data).1 with
  | error e => exact bufLookup_set_other _ _ _ _ hne
  | ok ps =>
    exact dispatch_invariant env now rnd addr (fun x => bufLookup other x.liteBufs = bufLookup other t.liteBufs)
      (fun _ _ _ _ h => h) ps _ (bufLookup_set_other _ _ _ _ hne)

end Nx.L1
