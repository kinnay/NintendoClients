import NxModel.Nex.HolderPoly
import NxProofs.NexStreams
import NxProofs.Assoc
/-! Round trip of a polymorphic data holder over any class hierarchy and any registry (C15) -/
namespace Nx.Nex.HolderPoly

/-! ## the registry is a dict: last registration of a name, order otherwise irrelevant -/

theorem lookupLast_eq (name : String) (reg : Registry) : lookupLast name reg = alookup name reg.reverse := by
  induction reg with
  | nil => rfl
  | cons p r ih =>
    rw [lookupLast, ih, List.reverse_cons, alookup_eq_find, alookup_eq_find, List.find?_append]
    cases List.find? (fun x => x.1 == name) r.reverse with
    | some x => rfl
    | none => by_cases h : p.1 = name <;> simp [h]

theorem lookupLast_eq_some_iff {name : String} {c : Nat} {reg : Registry} (hnd : (reg.map (·.1)).Nodup) :
    lookupLast name reg = some c ↔ (name, c) ∈ reg := by
  rw [lookupLast_eq, ← List.mem_reverse]
  exact ⟨mem_of_alookup, alookup_of_mem (((List.reverse_perm reg).map (·.1)).nodup_iff.mpr hnd)⟩

theorem lookupLast_of_mem_nodup {name : String} {c : Nat} {reg : Registry}
    (hnd : (reg.map (·.1)).Nodup) (hm : (name, c) ∈ reg) : lookupLast name reg = some c :=
  (lookupLast_eq_some_iff hnd).mpr hm

theorem lookupLast_perm {name : String} {reg reg' : Registry} (hnd : (reg.map (·.1)).Nodup) (hp : reg.Perm reg') :
    lookupLast name reg' = lookupLast name reg :=
  Option.ext fun c => by
    rw [lookupLast_eq_some_iff ((hp.map (·.1)).nodup_iff.mp hnd), lookupLast_eq_some_iff hnd]
    exact hp.mem_iff.symm

theorem sizeLoader_append (ver : Nat) (body rest : Bytes) :
    sizeLoader body.length ver (body ++ rest) = .ok ((ver, body), rest) := by
  simp [sizeLoader, rd_append]

theorem rStruct_wStruct_sizes (header : Bool) (levels : List (Nat × Bytes)) {b : Bytes} (h : wStruct header levels = .ok b)
    (rest : Bytes) :
    rStruct header (levels.map (fun p => sizeLoader p.2.length)) (b ++ rest) = .ok (seenLevels header levels, rest) := by
  refine seq_rt (W := wStruct header) (R := fun l => rStruct header (l.map (fun p => sizeLoader p.2.length)))
    (r := fun p => rStructLevel header (sizeLoader p.2.length)) rfl (fun _ _ => rfl) (fun _ => rfl) ?_ levels
    (fun p _ _ rest hb => rStructLevel_wStructLevel header p.1 p.2 (sizeLoader p.2.length) _
      (fun rest => sizeLoader_append _ p.2 rest) hb rest) b rest h
  -- as a term this `rfl` sends the unifier through `rStructLevel` first
  intro x xs b
  rfl

theorem rObject_wStruct (tbl : ClassTable) (header : Bool) (o : Obj) (hwf : o.WellFormed tbl)
    {b : Bytes} (h : wStruct header o.levels = .ok b) (rest : Bytes) :
    rObject tbl header o.cls (b ++ rest) = .ok (o.seen header, rest) := by
  have hl : (hierarchy tbl o.cls).map (fun i => sizeLoader (sizeOf tbl i)) = o.levels.map (fun p => sizeLoader p.2.length) := by
    have := congrArg (List.map sizeLoader) hwf
    simpa [List.map_map, Function.comp_def] using this.symm
  unfold rObject
  rw [hl, rStruct_wStruct_sizes header o.levels h rest]
  rfl

end Nx.Nex.HolderPoly
