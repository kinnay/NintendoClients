import NxModel.Crypto.Md5
/-! MD5 / HMAC-MD5 digests are 16 bytes; RC4 is xor with a key stream that does not depend on the data, hence
length-preserving and undone by a second application from the same state. -/
namespace Nx.Crypto

theorem md5_length (m : Bytes) : (md5 m).length = 16 := by simp only [md5, List.length_append]; rfl

theorem hmacMd5_length (k m : Bytes) : (hmacMd5 k m).length = 16 := md5_length _

theorem rc4Apply_length : ∀ (x : Bytes) (st : Rc4), (rc4Apply st x).1.length = x.length := by
  intro x
  induction x with
  | nil => intro st; rfl
  | cons a r ih => intro st; simp only [rc4Apply, List.length_cons]; rw [ih]

theorem rc4Apply_involutive : ∀ (x : Bytes) (st : Rc4),
    (rc4Apply st (rc4Apply st x).1).1 = x ∧ (rc4Apply st (rc4Apply st x).1).2 = (rc4Apply st x).2 := by
  intro x
  induction x with
  | nil => intro st; exact ⟨rfl, rfl⟩
  | cons a r ih =>
    intro st
    simp only [rc4Apply]
    obtain ⟨h1, h2⟩ := ih (rc4Next st).2
    refine ⟨?_, h2⟩
    rw [h1, UInt8.xor_assoc, UInt8.xor_self, UInt8.xor_zero]

end Nx.Crypto
