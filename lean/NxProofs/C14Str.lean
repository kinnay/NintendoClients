import NxProofs.Schema
import NxProofs.NexStreams
/-! C14, string-valued positions at the level of Python `str`. The schema interpreter (`NxModel/Nex/Schema.lean`) carries a
string as its UTF-8 bytes (`Val.str`) and its `decStr` drops the last *byte* (documented difference G4, header of `NxModel/Nex/Schema.lean`), whereas
`StreamIn.string` decodes the bytes and drops the last *character*. On every encodable `str` — a Lean `String` is a sequence of
Unicode scalar values, exactly what `encode("utf8")` accepts, U+0000 anywhere included — the two codecs (`wString` / `rString` of
`NxModel/Nex/Streams.lean`: `(s + "\0").encode("utf8")`, `decode("utf8")[:-1]`) write the same bytes and fail on the same strings,
those of more than 65534 bytes (`encStr_eq_wString`). That they read back the same string is then the round trip of each side
(`C14.string_position_char_level`). -/
namespace Nx.C14Str
open Nx.Schema Nx.Nex

theorem encStr_eq_wString (s : String) : encStr (utf8Enc s.toList) = wString (some s) := by
  simp only [wString, utf8Enc_terminated, encStr, wU16, List.length_append, List.length_cons, List.length_nil]
  by_cases h : (utf8Enc s.toList).length + 1 < 65536
  · simp [h, bind, Except.bind, pure, Except.pure]
  · simp [h, bind, Except.bind]

end Nx.C14Str
