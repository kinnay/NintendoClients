import NxModel.Misc.BitStream
import NxProofs.Bytes
import Mathlib.Tactic.Ring  -- no tactic of it is used: with it in scope every `2 ^ n` on ℕ in this file, MiscCtr and NxProps/C19 elaborates through Mathlib's `Monoid.npow`, which the statements there rely on
/-! bit-stream lemmas: `bits` read after `bits` written returns the value (mod 2^w); `get()` is lossless -/
namespace Nx.Misc

theorem natToBits_length (w v : Nat) : (natToBits w v).length = w := by
  induction w with
  | zero => rfl
  | succ w ih => simp [natToBits, ih]

/-- the least significant bit is written last: `natToBits` also peels from the right, where `bitsToNat` folds -/
theorem natToBits_concat (w v : Nat) : natToBits (w + 1) v = natToBits w (v / 2) ++ [v.testBit 0] := by
  induction w with
  | zero => rfl
  | succ w ih => rw [natToBits, ih, natToBits, Nat.testBit_succ, List.cons_append]

theorem bitsToNat_concat (bs : Bits) (b : Bool) : bitsToNat (bs ++ [b]) = 2 * bitsToNat bs + b.toNat := by
  simp [bitsToNat]

theorem bitsToNat_natToBits (w v : Nat) : bitsToNat (natToBits w v) = v % 2 ^ w := by
  induction w generalizing v with
  | zero => simp [natToBits, bitsToNat, Nat.mod_one]
  | succ w ih =>
    rw [natToBits_concat, bitsToNat_concat, ih, Nat.pow_succ', Nat.mod_mul, Nat.toNat_testBit]
    simp [Nat.add_comm]

theorem natToBits_bitsToNat (bs : Bits) : natToBits bs.length (bitsToNat bs) = bs := by
  -- `bitsToNat` consumes from the left, so the induction runs over the reversed list
  rw [← bs.reverse_reverse, List.length_reverse]
  induction bs.reverse with
  | nil => rfl
  | cons b r ih =>
    rw [List.reverse_cons, List.length_cons, natToBits_concat, bitsToNat_concat]
    cases b <;> simp [Nat.mul_add_div, ih]

theorem bitsToNat_natToBits_of_lt (w v : Nat) (h : v < 2 ^ w) : bitsToNat (natToBits w v) = v := by
  rw [bitsToNat_natToBits, Nat.mod_eq_of_lt h]

theorem bitsToNat_single (b : Bool) : bitsToNat [b] = b.toNat := by simp [bitsToNat]

theorem natToBits_byteOfBits (c : Bits) (h : c.length = 8) : natToBits 8 (byteOfBits c).toNat = c := by
  -- `bitsToNat c % 2 ^ 8` is `bitsToNat (natToBits 8 (bitsToNat c))`, whose inner round trip is `c`
  rw [byteOfBits, b8_toNat, show 256 = 2 ^ 8 from rfl, ← bitsToNat_natToBits, ← h, natToBits_bitsToNat, natToBits_bitsToNat]

theorem unpack_pack (bs : Bits) (h : bs.length % 8 = 0) : unpackBits (packBits bs) = bs :=
  match bs, h with
  | [], _ => rfl
  | b0 :: b1 :: b2 :: b3 :: b4 :: b5 :: b6 :: b7 :: r, h => by
    have ih := unpack_pack r ((Nat.add_mod_right r.length 8).symm.trans h)
    simp only [unpackBits, packBits, List.flatMap_cons] at ih ⊢
    rw [natToBits_byteOfBits _ rfl, ih]; rfl

theorem unpackBits_append (a b : Bytes) : unpackBits (a ++ b) = unpackBits a ++ unpackBits b := by
  simp [unpackBits, List.flatMap_append]

theorem unpackBits_length (a : Bytes) : (unpackBits a).length = 8 * a.length := by
  induction a with
  | nil => rfl
  | cons x r ih => simp only [unpackBits, List.flatMap_cons, List.length_append, natToBits_length, List.length_cons] at ih ⊢; omega

theorem pack_length (bs : Bits) (h : bs.length % 8 = 0) : (packBits bs).length * 8 = bs.length := by
  have := congrArg List.length (unpack_pack bs h)
  rw [unpackBits_length] at this
  omega

end Nx.Misc
