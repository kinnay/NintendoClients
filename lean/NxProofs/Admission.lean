import NxModel.Prudp.L1Crypto
import NxProofs.Bytes
/-! C05: the client's check of the connection response, and what an accepted login request proves about the payload -/
namespace Nx.L1

theorem client_response_check (c : Conn) (data : Bytes) :
    c.checkConnectionResponse data = none ↔
      (match c.credentials with
       | some _ => data = u32le 4 ++ u32le ((c.connectionCheck + 1) % 4294967296)
       | none => data = []) := by
  unfold Conn.checkConnectionResponse
  cases c.credentials with
  | none => cases data <;> simp
  | some cr =>
    -- the three guards are the three conjuncts of `eq_u32le_append_iff`
    simp only [ne_eq, ite_not, ite_ite_and, ← eq_u32le_append_iff (x := 4) (by decide) (Nat.mod_lt _ (by decide))]
    by_cases h : data = u32le 4 ++ u32le ((c.connectionCheck + 1) % 4294967296)
    · rw [if_pos h]; exact ⟨fun _ => h, fun _ => rfl⟩
    · rw [if_neg h]; exact ⟨nofun, fun h' => absurd h' h⟩

theorem login_accept_implies (kc : Nex.Kerberos.Cfg) (epoch : Nat) (tz : Int) (data key : Bytes) (now : Time)
    (pid cid : Nat) (sk resp : Bytes)
    (h : loginRequestFn kc epoch tz data key now = .ok (pid, cid, sk, resp)) :
    ∃ td r1 rd r2 ticket ts dec r3 r4 r5 check,
      Nex.rBuffer data = .ok (td, r1) ∧ Nex.rBuffer r1 = .ok (rd, r2) ∧
      Nex.Kerberos.ServerTicket.decrypt kc key td = .ok ticket ∧
      Nex.DateTime.timestamp tz ticket.timestamp = .ok ts ∧
      ¬ ((ts + 120 - (epoch : Int)) * 1073741824 < (now : Int)) ∧
      Nex.Kerberos.decrypt ticket.sessionKey rd = .ok dec ∧ dec.length = kc.pidSize + 8 ∧
      Nex.rPid kc.pidSize dec = .ok (pid, r3) ∧ pid = ticket.source ∧ sk = ticket.sessionKey ∧
      rdU32 r3 = .ok (cid, r4) ∧ rdU32 r4 = .ok (check, r5) ∧
      resp = u32le 4 ++ u32le ((check + 1) % 4294967296) := by
  obtain ⟨⟨td, r1⟩, h1, h⟩ := Nx.bind_ok h
  obtain ⟨⟨rd, r2⟩, h2, h⟩ := Nx.bind_ok h
  obtain ⟨ticket, h3, h⟩ := Nx.bind_ok h
  obtain ⟨ts, h4, h⟩ := Nx.bind_ok h
  obtain ⟨h5, h⟩ := Nx.of_ite_error h
  obtain ⟨dec, h6, h⟩ := Nx.bind_ok h
  obtain ⟨h7, h⟩ := Nx.of_ite_error h
  obtain ⟨⟨p8, r3⟩, h8, h⟩ := Nx.bind_ok h
  obtain ⟨h9, h⟩ := Nx.of_ite_error h
  obtain ⟨⟨c10, r4⟩, h10, h⟩ := Nx.bind_ok h
  obtain ⟨⟨chk, r5⟩, h11, h⟩ := Nx.bind_ok h
  cases h
  exact ⟨td, r1, rd, r2, ticket, ts, dec, r3, r4, r5, chk, h1, h2, h3, h4, h5, h6, Decidable.not_not.mp h7,
    (Decidable.not_not.mp h9) ▸ h8, rfl, rfl, h10, h11, rfl⟩

end Nx.L1
