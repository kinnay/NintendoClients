import NxModel.Prudp.Endpoint
import NxProofs.Assoc
/-!
# The methods of an endpoint, as equations

Each method of `Conn` (and the server's `process_syn` / `process_connect`) is a row of checks followed by one action. Its body is
taken apart here once: the checks become a predicate (`Conn.synValid`, `Conn.connectValid`, `connectPrecheck`) with one equation for
a packet that fails it and one for a packet that passes; `handle` becomes state gates, type dispatch (`Conn.process`) and the
acknowledgement's bookkeeping (`Conn.ackTail`); `transmit` and `resend_packet` go by cases. Everything else about these methods is
read off the equations.
-/
namespace Nx.L1
open Nx.Prudp

theorem R.bind_ok_map (r : R) (f : Conn → Conn) :
    (r.bind fun c => R.ok (f c)) = { c := if r.err = none then f r.c else r.c, outs := r.outs, err := r.err } := by
  obtain ⟨c, outs, err⟩ := r
  cases err <;> simp [R.bind, R.ok]

theorem R.ok_bind (c : Conn) (f : Conn → R) : (R.ok c).bind f = f c := rfl

theorem R.fail_bind (c : Conn) (e : Err) (f : Conn → R) : (R.fail c e).bind f = R.fail c e := rfl

theorem R.bind_err {r : R} {e : Err} (f : Conn → R) (h : r.err = some e) : r.bind f = r := by
  unfold R.bind; rw [h]

theorem R.bind_ok (r : R) (f : Conn → R) (h : r.err = none) : (r.bind f).err = (f r.c).err ∧ (r.bind f).c = (f r.c).c := by
  unfold R.bind; rw [h]; exact ⟨rfl, rfl⟩

theorem ackLookup_eq : ackLookup = alookup := eq_alookup rfl rfl

theorem ackSet_eq : ackSet = aset := eq_aset rfl rfl

theorem mem_ackSet (k : AckKey) (h : Nat) (l : List (AckKey × Nat)) (e : AckKey × Nat) (he : e ∈ ackSet k h l) :
    e = (k, h) ∨ e ∈ l :=
  mem_aset (ackSet_eq ▸ he)

theorem ackLookup_eq_none_iff (k : AckKey) (l : List (AckKey × Nat)) : ackLookup k l = none ↔ ∀ e ∈ l, e.1 ≠ k :=
  ackLookup_eq ▸ alookup_eq_none_iff

/-- the end of `handle` for a packet that is not a DISCONNECT: the timer of the packet it acknowledges is cancelled -/
def Conn.acked (c : Conn) (p : Packet) : Conn :=
  if hasAck p.flags then
    match ackLookup (ackKeyOf p) c.ackEvents with
    | some h => { c with ackEvents := ackErase (ackKeyOf p) c.ackEvents, sched := c.sched.map (·.remove h) }
    | none => c
  else c

theorem acked_of_none (c : Conn) (p : Packet) (h : ackLookup (ackKeyOf p) c.ackEvents = none) : c.acked p = c := by
  unfold Conn.acked; rw [h]; split <;> rfl

theorem acked_cases (c : Conn) (p : Packet) :
    c.acked p = c ∨ ∃ h, hasAck p.flags = true ∧ ackLookup (ackKeyOf p) c.ackEvents = some h ∧
      c.acked p = { c with ackEvents := ackErase (ackKeyOf p) c.ackEvents, sched := c.sched.map (·.remove h) } := by
  unfold Conn.acked
  cases ha : hasAck p.flags with
  | false => exact Or.inl rfl
  | true =>
    cases hl : ackLookup (ackKeyOf p) c.ackEvents with
    | none => exact Or.inl rfl
    | some h => exact Or.inr ⟨h, rfl, rfl, rfl⟩

theorem mem_ackErase {k : AckKey} {l : List (AckKey × Nat)} {e : AckKey × Nat} : e ∈ ackErase k l ↔ e ∈ l ∧ e.1 ≠ k :=
  mem_aerase (l := l)

theorem acked_sub (c : Conn) (p : Packet) : ∀ e ∈ (c.acked p).ackEvents, e ∈ c.ackEvents := by
  intro e he
  rcases acked_cases c p with h | ⟨_, _, _, h⟩
  · exact h ▸ he
  · rw [h] at he; exact (mem_ackErase.mp he).1

theorem acked_clears (c : Conn) (p : Packet) (hack : hasAck p.flags = true) : ∀ e ∈ (c.acked p).ackEvents, e.1 ≠ ackKeyOf p := by
  intro e he
  cases hl : ackLookup (ackKeyOf p) c.ackEvents with
  | none => rw [acked_of_none c p hl] at he; exact (ackLookup_eq_none_iff _ _).mp hl e he
  | some h =>
    unfold Conn.acked at he
    rw [hack, hl] at he
    exact (mem_ackErase.mp he).2

/-- the type dispatch of `handle` -/
def Conn.process (env : Env) (now : Time) (c : Conn) (p : Packet) : R :=
  if p.type = TYPE_SYN then c.processSyn env now p
  else if p.type = TYPE_CONNECT then c.processConnect env p
  else c.processOther env now p

/-- the end of `handle`: the timer of the packet an acknowledgement names is cancelled, and an acknowledged DISCONNECT closes -/
def Conn.ackTail (p : Packet) (c : Conn) : R :=
  if hasAck p.flags then
    match ackLookup (ackKeyOf p) c.ackEvents with
    | some h =>
      let c := { c with ackEvents := ackErase (ackKeyOf p) c.ackEvents, sched := c.sched.map (·.remove h) }
      if p.type = TYPE_DISCONNECT then c.cleanup else R.ok c
    | none => R.ok c
  else R.ok c

theorem handle_eq (env : Env) (now : Time) (c : Conn) (p : Packet) :
    c.handle env now p =
      if c.state = STATE_DISCONNECTED then R.ok c
      else if c.state = STATE_CONNECTING ∧ p.type ≠ TYPE_SYN then R.fail c .value
      else (c.process env now p).bind (Conn.ackTail p) := rfl

theorem ackTail_of_not_ack (p : Packet) (c : Conn) (h : hasAck p.flags = false) : c.ackTail p = R.ok c := by
  unfold Conn.ackTail; rw [h]; rfl

theorem ackTail_eq_acked (p : Packet) (hp : p.type ≠ TYPE_DISCONNECT) : Conn.ackTail p = fun c => R.ok (c.acked p) := by
  funext c
  unfold Conn.ackTail Conn.acked
  cases hasAck p.flags with
  | false => rfl
  | true =>
    simp only [if_true, if_neg hp]
    cases ackLookup (ackKeyOf p) c.ackEvents <;> rfl

theorem handle_gates (env : Env) (now : Time) (c : Conn) (p : Packet) :
    ((c.handle env now p).c = c ∧ (c.handle env now p).outs = []) ∨
    c.handle env now p = (c.process env now p).bind (Conn.ackTail p) := by
  rw [handle_eq]
  by_cases hd : c.state = STATE_DISCONNECTED
  · rw [if_pos hd]; exact Or.inl ⟨rfl, rfl⟩
  by_cases hc : c.state = STATE_CONNECTING ∧ p.type ≠ TYPE_SYN
  · rw [if_neg hd, if_pos hc]; exact Or.inl ⟨rfl, rfl⟩
  · rw [if_neg hd, if_neg hc]; exact Or.inr rfl

theorem handle_other (env : Env) (now : Time) (c : Conn) (p : Packet) (hns : p.type ≠ TYPE_SYN) (hnc : p.type ≠ TYPE_CONNECT) :
    ((c.handle env now p).c = c ∧ (c.handle env now p).outs = []) ∨
    c.handle env now p = (c.processOther env now p).bind (Conn.ackTail p) := by
  have h := handle_gates env now c p
  rwa [Conn.process, if_neg hns, if_neg hnc] at h

theorem handle_syn (env : Env) (now : Time) (c : Conn) (p : Packet) (hp : p.type = TYPE_SYN) (hd : c.state ≠ STATE_DISCONNECTED) :
    c.handle env now p = (c.processSyn env now p).bind fun c => R.ok (c.acked p) := by
  rw [handle_eq, if_neg hd, if_neg (fun h => h.2 hp), Conn.process, if_pos hp, ackTail_eq_acked p (by rw [hp]; decide)]

theorem handle_connect (env : Env) (now : Time) (c : Conn) (p : Packet) (hp : p.type = TYPE_CONNECT) :
    ((c.handle env now p).c = c ∧ (c.handle env now p).outs = []) ∨
    c.handle env now p = (c.processConnect env p).bind fun c => R.ok (c.acked p) := by
  have h := handle_gates env now c p
  rwa [Conn.process, if_neg (by rw [hp]; decide), if_pos hp, ackTail_eq_acked p (by rw [hp]; decide)] at h

theorem decodePayload_plain (env : Env) (c : Conn) (p : Packet) (h : ¬ (p.type = TYPE_DATA ∧ (!p.payload.isEmpty) = true)) :
    c.decodePayload env p = .ok (p.payload, c) := by
  unfold Conn.decodePayload; rw [if_neg h]

theorem decodePayload_rel_on (env : Env) (c : Conn) (p : Packet) (sc : StreamCipher)
    (h1 : p.type = TYPE_DATA ∧ (!p.payload.isEmpty) = true) (h2 : hasReliable p.flags = true)
    (h3 : c.relCiphers[p.substreamId]? = some sc) (h4 : c.cipherOn = true) :
    c.decodePayload env p =
      match env.decompress (rc4At sc.key sc.decPos p.payload) with
      | .ok d => .ok (d, { c with relCiphers := setAt c.relCiphers p.substreamId { sc with decPos := sc.decPos + p.payload.length } })
      | .error e => .error e := by
  unfold Conn.decodePayload; rw [if_pos h1, if_pos h2, h3]; simp only [h4, if_true]; rfl

theorem decodePayload_rel_off (env : Env) (c : Conn) (p : Packet) (sc : StreamCipher)
    (h1 : p.type = TYPE_DATA ∧ (!p.payload.isEmpty) = true) (h2 : hasReliable p.flags = true)
    (h3 : c.relCiphers[p.substreamId]? = some sc) (h4 : c.cipherOn = false) :
    c.decodePayload env p =
      match env.decompress p.payload with
      | .ok d => .ok (d, c)
      | .error e => .error e := by
  unfold Conn.decodePayload; rw [if_pos h1, if_pos h2, h3]; simp only [h4, Bool.false_eq_true, if_false]; rfl

theorem decodePayload_rel_none (env : Env) (c : Conn) (p : Packet)
    (h1 : p.type = TYPE_DATA ∧ (!p.payload.isEmpty) = true) (h2 : hasReliable p.flags = true)
    (h3 : c.relCiphers[p.substreamId]? = none) : c.decodePayload env p = .error .index := by
  unfold Conn.decodePayload; rw [if_pos h1, if_pos h2, h3]

theorem decodePayload_unrel (env : Env) (c : Conn) (p : Packet)
    (h1 : p.type = TYPE_DATA ∧ (!p.payload.isEmpty) = true) (h2 : ¬ hasReliable p.flags = true) :
    c.decodePayload env p =
      match env.decompress (if c.cipherOn then rc4At (makeUnreliableKey c.unrelKey p.packetId p.sessionId) 0 p.payload else p.payload) with
      | .ok d => .ok (d, c)
      | .error e => .error e := by
  unfold Conn.decodePayload; rw [if_pos h1, if_neg h2]; rfl

theorem decodePayload_cases (env : Env) (c : Conn) (p : Packet) :
    c.decodePayload env p = .error .index ∨ (∃ b e, env.decompress b = .error e ∧ c.decodePayload env p = .error e) ∨
    (∃ d, c.decodePayload env p = .ok (d, c)) ∨
    ∃ d sc, c.relCiphers[p.substreamId]? = some sc ∧ c.decodePayload env p =
      .ok (d, { c with relCiphers := setAt c.relCiphers p.substreamId { sc with decPos := sc.decPos + p.payload.length } }) := by
  by_cases h1 : p.type = TYPE_DATA ∧ (!p.payload.isEmpty) = true
  · by_cases h2 : hasReliable p.flags = true
    · cases h3 : c.relCiphers[p.substreamId]? with
      | none => exact Or.inl (decodePayload_rel_none env c p h1 h2 h3)
      | some sc =>
        by_cases h4 : c.cipherOn = true
        · rw [decodePayload_rel_on env c p sc h1 h2 h3 h4]
          cases hd : env.decompress (rc4At sc.key sc.decPos p.payload) with
          | error e => exact Or.inr (Or.inl ⟨_, e, hd, rfl⟩)
          | ok x => exact Or.inr (Or.inr (Or.inr ⟨x, sc, rfl, rfl⟩))
        · rw [decodePayload_rel_off env c p sc h1 h2 h3 (Bool.eq_false_iff.mpr h4)]
          cases hd : env.decompress p.payload with
          | error e => exact Or.inr (Or.inl ⟨_, e, hd, rfl⟩)
          | ok x => exact Or.inr (Or.inr (Or.inl ⟨x, rfl⟩))
    · rw [decodePayload_unrel env c p h1 h2]
      generalize hg : env.decompress _ = r
      cases r with
      | error e => exact Or.inr (Or.inl ⟨_, e, hg, rfl⟩)
      | ok x => exact Or.inr (Or.inr (Or.inl ⟨x, rfl⟩))
  · exact Or.inr (Or.inr (Or.inl ⟨_, decodePayload_plain env c p h1⟩))

theorem decodePayload_conn (env : Env) (c c1 : Conn) (p : Packet) (d : Bytes) (h : c.decodePayload env p = .ok (d, c1)) :
    c1 = c ∨ ∃ sc, c.relCiphers[p.substreamId]? = some sc ∧
      c1 = { c with relCiphers := setAt c.relCiphers p.substreamId { sc with decPos := sc.decPos + p.payload.length } } := by
  rcases decodePayload_cases env c p with h' | ⟨_, _, _, h'⟩ | ⟨_, h'⟩ | ⟨_, sc, hsc, h'⟩ <;> rw [h'] at h <;> cases h
  · exact Or.inl rfl
  · exact Or.inr ⟨sc, hsc, rfl⟩

theorem processReliable_none (env : Env) (c : Conn) (p : Packet) (h : c.windows[p.substreamId]? = none) :
    c.processReliable env p = R.fail c .index := by
  unfold Conn.processReliable; rw [h]

/- The result of `update` is a variable on purpose. `isDup` adds 65536 to a variable, which the kernel unfolds in unary as soon
   as it has to evaluate `w.update id p`; it does so whenever a step turns the inner `let (w', rel) := w.update …` into
   projections, or unfolds `Conn.consume` on `(w.update id p).2`, by definitional equality (`simp` with `iota`, `dsimp`, `split`
   and the `rfl` after `rw` all leave such a step). A user destructures `u` first (`cases hu : w.update p.packetId p`:
   `processReliable_steps`) or passes `rfl` and never computes with `(w.update …).1` / `.2` (`processReliable_refines`). -/
theorem processReliable_eq (env : Env) (c : Conn) (p : Packet) {w : Chan.Window Packet} (hwin : c.windows[p.substreamId]? = some w)
    {u : Chan.Window Packet × List Packet} (hu : w.update p.packetId p = u) :
    c.processReliable env p = Conn.consume env p.substreamId u.2 { c with windows := setAt c.windows p.substreamId u.1 } := by
  unfold Conn.processReliable
  rw [hwin]
  simp -iota only [Conn.processReliable.match_3.eq_2]
  rw [hu]

/-- `a & ~b == 0` as the model writes it -/
def subsetBits (a b : Nat) : Prop := (a ^^^ (a &&& b)) = 0

/-- the checks of `process_syn` on a SYN/ACK that precede the look for the pending SYN -/
def Conn.synValid (env : Env) (c : Conn) (p : Packet) : Prop :=
  p.signature = env.packetSig c.codec p [] [] ∧ hasAck p.flags = true ∧
  (p.sessionId = 0 ∧ p.packetId = 0 ∧ p.fragmentId = 0 ∧ p.substreamId = 0) ∧
  (p.maxSubstreamId ≤ c.maxSub ∧ p.minorVersion ≤ c.minorVer ∧ subsetBits p.supportedFunctions c.supFuncs)

/-- the client adopts the parameters of an accepted SYN/ACK -/
def Conn.adopt (c : Conn) (p : Packet) : Conn :=
  { c with state := STATE_CONNECTED, maxSub := p.maxSubstreamId, minorVer := p.minorVersion,
           supFuncs := p.supportedFunctions, remoteSignature := p.connectionSignature }

theorem Conn.processSyn_invalid (env : Env) (now : Time) (c : Conn) (p : Packet) (h : ¬ c.synValid env p) :
    c.processSyn env now p = R.fail c .value := by
  unfold Conn.processSyn
  by_cases h1 : p.signature ≠ env.packetSig c.codec p [] []
  · rw [if_pos h1]
  rw [if_neg h1]
  by_cases h2 : (!hasAck p.flags) = true
  · rw [if_pos h2]
  rw [if_neg h2]
  by_cases h3 : p.sessionId ≠ 0 ∨ p.packetId ≠ 0 ∨ p.fragmentId ≠ 0 ∨ p.substreamId ≠ 0
  · rw [if_pos h3]
  rw [if_neg h3]
  by_cases h4 : p.maxSubstreamId > c.maxSub ∨ p.minorVersion > c.minorVer ∨
      (p.supportedFunctions ^^^ (p.supportedFunctions &&& c.supFuncs)) ≠ 0
  · rw [if_pos h4]
  exact absurd ⟨Decidable.not_not.mp h1, by simpa using h2, by omega, by unfold subsetBits; omega⟩ h

theorem Conn.processSyn_valid (env : Env) (now : Time) (c : Conn) (p : Packet) (h : c.synValid env p) :
    c.processSyn env now p =
      if (ackLookup (ackKeyOf p) c.ackEvents).isSome then (c.adopt p).sendConnect env now else R.ok c := by
  obtain ⟨h1, h2, h3, h4⟩ := h
  unfold Conn.processSyn
  rw [if_neg (Decidable.not_not.mpr h1), if_neg (by simp [h2]), if_neg (by omega), if_neg (by unfold subsetBits at h4; omega)]
  rfl

/-- the checks of `process_connect` on a CONNECT/ACK that precede the look for the pending CONNECT -/
def Conn.connectValid (env : Env) (c : Conn) (p : Packet) : Prop :=
  p.signature = env.packetSig c.codec p [] (env.connSig c.codec c.remoteAddr) ∧ hasAck p.flags = true ∧
  (p.packetId = 1 ∧ p.fragmentId = 0 ∧ p.substreamId = 0 ∧ anyNonZero p.connectionSignature = false) ∧
  (p.maxSubstreamId = c.maxSub ∧ p.minorVersion = c.minorVer ∧ p.supportedFunctions = c.supFuncs)

theorem Conn.processConnect_invalid (env : Env) (c : Conn) (p : Packet) (h : ¬ c.connectValid env p) :
    c.processConnect env p = R.fail c .value := by
  unfold Conn.processConnect
  by_cases h1 : p.signature ≠ env.packetSig c.codec p [] (env.connSig c.codec c.remoteAddr)
  · rw [if_pos h1]
  rw [if_neg h1]
  by_cases h2 : (!hasAck p.flags) = true
  · rw [if_pos h2]
  rw [if_neg h2]
  by_cases h3 : p.packetId ≠ 1 ∨ p.fragmentId ≠ 0 ∨ p.substreamId ≠ 0 ∨ anyNonZero p.connectionSignature
  · rw [if_pos h3]
  rw [if_neg h3]
  by_cases h4 : p.maxSubstreamId ≠ c.maxSub ∨ p.minorVersion ≠ c.minorVer ∨ p.supportedFunctions ≠ c.supFuncs
  · rw [if_pos h4]
  exact absurd ⟨Decidable.not_not.mp h1, by simpa using h2, by simpa [not_or] using h3, by simpa [not_or] using h4⟩ h

theorem Conn.processConnect_valid (env : Env) (c : Conn) (p : Packet) (h : c.connectValid env p) :
    c.processConnect env p =
      if (ackLookup (ackKeyOf p) c.ackEvents).isSome then
        match c.checkConnectionResponse p.payload with
        | some e => R.fail c e
        | none => R.ok { c with remoteSessionId := some p.sessionId, handshakeEvent := true }
      else R.ok c := by
  obtain ⟨h1, h2, h3, h4⟩ := h
  unfold Conn.processConnect
  rw [if_neg (Decidable.not_not.mpr h1), if_neg (by simp [h2]), if_neg (by simp [h3]), if_neg (by simp [h4])]
  rfl

theorem cleanup_no_error (c : Conn) : c.cleanup.err = none := rfl

/-- `transmit`: cleanup, or an exception with nothing changed, or the packet goes out and — for a packet that wants an
    acknowledgement — its retransmission timer is appended, due one `resend_timeout` later with counter 0 -/
theorem transmit_cases (env : Env) (now : Time) (c : Conn) (p : Packet) :
    (c.linkUp = false ∧ (c.transmit env now p).c = c.cleanup.c) ∨
    ((c.transmit env now p).err.isSome ∧ (c.transmit env now p).c = c) ∨
    ((c.transmit env now p).err = none ∧
      (c.transmit env now p).c = (if (hasReliable p.flags || p.type == TYPE_SYN) && hasNeedAck p.flags then c.arm now p 0 else c)) := by
  unfold Conn.transmit
  by_cases hl : (!c.linkUp) = true
  · rw [if_pos hl]; exact Or.inl ⟨by simpa using hl, rfl⟩
  · rw [if_neg hl]
    cases encodeChecked env.cfg p with
    | error e => exact Or.inr (Or.inl ⟨rfl, rfl⟩)
    | ok data => exact Or.inr (Or.inr ⟨rfl, rfl⟩)

/-- one retransmission step: below the limit the same packet goes out again and the timer is re-armed one
    `resend_timeout` later with the counter incremented; at the limit the connection is torn down -/
theorem resend_step_below (env : Env) (now : Time) (c : Conn) (p : Packet) (k : Nat) (hk : k < c.resendLimit) (hl : c.linkUp = true) :
    c.resendPacket env now p k = R.ok (c.arm now p (k + 1)) [Out.emit c.remoteAddr p (encode env.cfg p)] := by
  unfold Conn.resendPacket
  rw [if_pos hk]
  simp [hl]

theorem resend_step_limit (env : Env) (now : Time) (c : Conn) (p : Packet) (k : Nat) (hk : ¬ k < c.resendLimit) :
    c.resendPacket env now p k = c.cleanup := by
  unfold Conn.resendPacket
  rw [if_neg hk]

theorem resendPacket_cases (env : Env) (now : Time) (c : Conn) (p : Packet) (k : Nat) :
    c.resendPacket env now p k = c.cleanup ∨
    k < c.resendLimit ∧ c.resendPacket env now p k = R.ok (c.arm now p (k + 1)) [Out.emit c.remoteAddr p (encode env.cfg p)] := by
  by_cases hk : k < c.resendLimit
  · cases hl : c.linkUp
    · unfold Conn.resendPacket; rw [if_pos hk, hl]; exact Or.inl rfl
    · exact Or.inr ⟨hk, resend_step_below env now c p k hk hl⟩
  · exact Or.inl (resend_step_limit env now c p k hk)

/-- a retransmission timer that fires raises nothing, so the exception barrier around it does nothing -/
theorem fireOne_resend (env : Env) (now : Time) (c : Conn) (p : Packet) (k : Nat) :
    c.fireOne env now (.resend p k) = c.resendPacket env now p k := by
  rw [Conn.fireOne, show c.fire env now (.resend p k) = c.resendPacket env now p k from rfl]
  rcases resendPacket_cases env now c p k with e | ⟨_, e⟩ <;> rw [e] <;> rfl

/-- the packet `send_packet` hands to the transport once the id and the payload are settled -/
def Conn.stamp (env : Env) (c : Conn) (p : Packet) (id : Nat) (payload : Bytes) : Packet :=
  let q := { p with version := c.version, sourcePort := c.localPort, sourceType := c.localType,
                    destPort := c.remotePort, destType := c.remoteType, packetId := id,
                    sessionId := if p.type = TYPE_SYN then p.sessionId else c.localSessionId, payload := payload }
  { q with signature := c.signFor env q }

/-- the hypotheses cover SYN, CONNECT, DISCONNECT and a reliable PING (the keep-alive of `send_ping` is one) -/
theorem sendPacket_control (env : Env) (now : Time) (c : Conn) (p : Packet) (hnd : p.type ≠ TYPE_DATA)
    (hnp : p.type ≠ TYPE_PING ∨ hasReliable p.flags = true) (hna : (hasAck p.flags || hasMultiAck p.flags) = false) :
    c.sendPacket env now p =
      if hasReliable p.flags then
        match c.counters[p.substreamId]? with
        | none => R.fail c .index
        | some k => ({ c with counters := setAt c.counters p.substreamId (Chan.seqNext k) } : Conn).transmit env now
                      (c.stamp env p k p.payload)
      else c.transmit env now (c.stamp env p 0 p.payload) := by
  unfold Conn.sendPacket Conn.stamp
  simp only [hna, Conn.assignIf, Conn.assign, Conn.encodeIf, Bool.false_eq_true, if_false, hnd]
  cases hr : hasReliable p.flags with
  | true =>
    by_cases hs : p.type = TYPE_SYN
    · simp only [hs, ne_eq, not_true_eq_false, if_false, if_true]; cases c.counters[p.substreamId]? <;> rfl
    · simp only [hs, hnd, ne_eq, not_false_eq_true, if_false, if_true, false_and]; cases c.counters[p.substreamId]? <;> rfl
  | false =>
    have hnp' : p.type ≠ TYPE_PING := hnp.resolve_right (by rw [hr]; exact Bool.false_ne_true)
    simp only [Bool.false_eq_true, if_false, hnp']
    by_cases hs : p.type = TYPE_SYN
    · simp only [hs, ne_eq, not_true_eq_false, if_false, if_true]; rfl
    · simp only [hs, hnd, ne_eq, not_false_eq_true, if_false, if_true, false_and]

theorem sendSyn_eq (env : Env) (now : Time) (c : Conn) :
    ∃ q, ackKeyOf q = (TYPE_SYN, 0, 0) ∧ c.sendSyn env now = c.transmit env now q := by
  unfold Conn.sendSyn
  rw [sendPacket_control]
  · rw [if_neg]
    · exact ⟨_, rfl, rfl⟩
    · show ¬ hasReliable FLAG_NEED_ACK = true
      decide
  · show TYPE_SYN ≠ TYPE_DATA
    decide
  · exact Or.inl (show TYPE_SYN ≠ TYPE_PING by decide)
  · show (hasAck FLAG_NEED_ACK || hasMultiAck FLAG_NEED_ACK) = false
    decide

theorem sendConnect_eq (env : Env) (now : Time) (c : Conn) :
    ∃ q : Nat → Packet, (∀ k, (q k).type = TYPE_CONNECT) ∧
      c.sendConnect env now =
        match c.counters[0]? with
        | none => R.fail c .index
        | some k => ({ c with counters := setAt c.counters 0 (Chan.seqNext k) } : Conn).transmit env now (q k) := by
  unfold Conn.sendConnect
  rw [sendPacket_control]
  · rw [if_pos]
    · exact ⟨fun k => c.stamp env _ k _, fun _ => rfl, rfl⟩
    · show hasReliable (FLAG_RELIABLE + FLAG_NEED_ACK + FLAG_HAS_SIZE) = true
      decide
  · show TYPE_CONNECT ≠ TYPE_DATA
    decide
  · exact Or.inl (show TYPE_CONNECT ≠ TYPE_PING by decide)
  · show (hasAck (FLAG_RELIABLE + FLAG_NEED_ACK + FLAG_HAS_SIZE) || hasMultiAck (FLAG_RELIABLE + FLAG_NEED_ACK + FLAG_HAS_SIZE)) = false
    decide

theorem ServerStream.processSyn_cases (env : Env) (s : ServerStream) (p : Packet) (addr : Addr) :
    (∃ e, s.processSyn env p addr = { s, err := some e }) ∨
    ∃ ack d, ack.maxSubstreamId = min s.maxSub p.maxSubstreamId ∧ ack.minorVersion = min s.minorVer p.minorVersion ∧
      ack.supportedFunctions = s.supFuncs &&& p.supportedFunctions ∧ ack.type = TYPE_SYN ∧ ack.flags = FLAG_ACK ∧
      s.processSyn env p addr = { s, outs := [.emit addr ack d] } := by
  unfold ServerStream.processSyn
  simp only []
  by_cases h1 : p.signature ≠ env.packetSig (select env.cfg.sel p.version) p [] []
  · rw [if_pos h1]; exact Or.inl ⟨_, rfl⟩
  rw [if_neg h1]
  by_cases h2 : (!hasNeedAck p.flags) = true
  · rw [if_pos h2]; exact Or.inl ⟨_, rfl⟩
  rw [if_neg h2]
  by_cases h3 : p.sessionId ≠ 0 ∨ p.packetId ≠ 0 ∨ p.fragmentId ≠ 0 ∨ p.substreamId ≠ 0 ∨ anyNonZero p.connectionSignature
  · rw [if_pos h3]; exact Or.inl ⟨_, rfl⟩
  rw [if_neg h3]
  cases encodeChecked env.cfg _ with
  | error e => exact Or.inl ⟨_, rfl⟩
  | ok d => exact Or.inr ⟨_, d, rfl, rfl, rfl, rfl, rfl, rfl⟩

theorem server_syn_stateless (env : Env) (s : ServerStream) (p : Packet) (addr : Addr) :
    (s.processSyn env p addr).s = s := by
  rcases ServerStream.processSyn_cases env s p addr with ⟨_, he⟩ | ⟨_, _, _, _, _, _, _, he⟩ <;> rw [he]

/-- the checks of `process_connect` that precede the login step -/
def connectPrecheck (env : Env) (s : ServerStream) (p : Packet) (addr : Addr) : Prop :=
  p.signature = env.packetSig (select env.cfg.sel p.version) p [] (env.connSig (select env.cfg.sel p.version) addr) ∧
  ¬ ((!hasNeedAck p.flags) = true ∨ p.packetId ≠ 1 ∨ p.fragmentId ≠ 0 ∨ p.substreamId ≠ 0) ∧
  ¬ (p.maxSubstreamId > s.maxSub ∨ p.minorVersion > s.minorVer ∨ (p.supportedFunctions ^^^ (p.supportedFunctions &&& s.supFuncs)) ≠ 0)

/-- the connection object the server creates for a CONNECT from an unknown peer, before the login step and `serve()` -/
def serverBase (env : Env) (rnd : Rnd) (up : Bool) (s : ServerStream) (p : Packet) (addr : Addr) : Conn :=
  { Conn.new env p.version rnd.initialUnrelId rnd.connectionCheck rnd.localSessionId s.addr s.port s.type addr p.sourcePort p.sourceType with
    maxSub := p.maxSubstreamId, supFuncs := p.supportedFunctions, minorVer := p.minorVersion,
    remoteSignature := p.connectionSignature, remoteSessionId := some p.sessionId, linkUp := up }

theorem clientLookup_eq : clientLookup = alookup := eq_alookup rfl rfl

theorem clientSet_eq : clientSet = aset := eq_aset rfl rfl

theorem clientLookup_set_same (k : ClientKey) (c : Conn) (l : List (ClientKey × Conn)) :
    clientLookup k (clientSet k c l) = some c := by
  rw [clientLookup_eq, clientSet_eq, alookup_aset_self]

theorem clientLookup_set_other (k k' : ClientKey) (c : Conn) (l : List (ClientKey × Conn)) (hne : k' ≠ k) :
    clientLookup k' (clientSet k c l) = clientLookup k' l := by
  rw [clientLookup_eq, clientSet_eq, alookup_aset_ne hne]

theorem loginStep_none (env : Env) (now : Time) (s : ServerStream) (p : Packet) (c : Conn) (b : Bool) (hk : s.key = none) :
    s.loginStep env now p c b = .ok (c, []) := by
  rw [ServerStream.loginStep, hk]

theorem loginStep_some (env : Env) (now : Time) (s : ServerStream) (p : Packet) (c : Conn) (b : Bool) (key : Bytes)
    (hk : s.key = some key) :
    s.loginStep env now p c b =
      match env.loginRequest p.payload key now with
      | .error e => .error e
      | .ok (pid, cid, sk, resp) => .ok (if b then c.login pid cid sk else c, resp) := by
  rw [ServerStream.loginStep, hk]
  rfl

theorem ServerStream.processConnect_invalid (env : Env) (now : Time) (rnd : Rnd) (up : Bool) (s : ServerStream) (p : Packet) (addr : Addr)
    (h : ¬ connectPrecheck env s p addr) : s.processConnect env now rnd up p addr = { s, err := some .value } := by
  unfold ServerStream.processConnect
  by_cases h1 : p.signature ≠ env.packetSig (select env.cfg.sel p.version) p [] (env.connSig (select env.cfg.sel p.version) addr)
  · rw [if_pos h1]
  rw [if_neg h1]
  by_cases h2 : (!hasNeedAck p.flags) = true ∨ p.packetId ≠ 1 ∨ p.fragmentId ≠ 0 ∨ p.substreamId ≠ 0
  · rw [if_pos h2]
  rw [if_neg h2]
  by_cases h3 : p.maxSubstreamId > s.maxSub ∨ p.minorVersion > s.minorVer ∨
      (p.supportedFunctions ^^^ (p.supportedFunctions &&& s.supFuncs)) ≠ 0
  · rw [if_pos h3]
  exact absurd ⟨Decidable.not_not.mp h1, h2, h3⟩ h

theorem ServerStream.processConnect_valid (env : Env) (now : Time) (rnd : Rnd) (up : Bool) (s : ServerStream) (p : Packet) (addr : Addr)
    (h : connectPrecheck env s p addr) :
    let k : ClientKey := (addr, p.sourcePort, p.sourceType)
    let r := s.processConnect env now rnd up p addr
    match s.loginStep env now p ((clientLookup k s.clients).getD (serverBase env rnd up s p addr)) (clientLookup k s.clients).isNone with
    | .error e => r = { s, err := some e }
    | .ok (c, _) =>
      r.s = (if (clientLookup k s.clients).isNone then { s with clients := clientSet k (c.serve now) s.clients } else s) ∧
      ((clientLookup k s.clients).isNone → SOut.started k ∈ r.outs) := by
  obtain ⟨h1, h2, h3⟩ := h
  intro k r
  have hr : r = s.processConnect env now rnd up p addr := rfl
  unfold ServerStream.processConnect at hr
  simp only [] at hr
  rw [if_neg (Decidable.not_not.mpr h1), if_neg h2, if_neg h3] at hr
  cases hx : clientLookup k s.clients with
  | some c0 =>
    rw [hx] at hr
    simp only [Option.getD_some, Option.isNone_some] at hr ⊢
    cases hl : s.loginStep env now p c0 false with
    | error e => rw [hl] at hr; exact hr
    | ok v => rw [hl] at hr; rw [hr]; exact ⟨rfl, fun h => by cases h⟩
  | none =>
    rw [hx] at hr
    simp only [Option.getD_none, Option.isNone_none] at hr ⊢
    cases hl : s.loginStep env now p (serverBase env rnd up s p addr) true with
    | error e => rw [serverBase] at hl; rw [hl] at hr; exact hr
    | ok v =>
      rw [serverBase] at hl; rw [hl] at hr; rw [hr]
      refine ⟨rfl, fun _ => ?_⟩
      cases up with
      | false => exact List.mem_singleton.mpr rfl
      | true =>
        simp only [Bool.not_true, Bool.false_eq_true, if_false]
        split
        · exact List.mem_singleton.mpr rfl
        · exact List.mem_cons_of_mem _ (List.mem_singleton.mpr rfl)

/-- **what `process_connect` registers** for a peer it did not know: the CONNECT passed the checks, the login step accepted,
    and the registered object is what the login step made of `serverBase`, after `serve()` -/
theorem server_registered (env : Env) (now : Time) (rnd : Rnd) (up : Bool) (s : ServerStream) (p : Packet) (addr : Addr)
    (hnew : clientLookup (addr, p.sourcePort, p.sourceType) s.clients = none) (c' : Conn)
    (hreg : clientLookup (addr, p.sourcePort, p.sourceType) (s.processConnect env now rnd up p addr).s.clients = some c') :
    connectPrecheck env s p addr ∧
      ∃ c resp, s.loginStep env now p (serverBase env rnd up s p addr) true = .ok (c, resp) ∧ c' = c.serve now := by
  by_cases hpre : connectPrecheck env s p addr
  · have h := ServerStream.processConnect_valid env now rnd up s p addr hpre
    simp only [hnew, Option.getD_none, Option.isNone_none, if_true] at h
    cases hl : s.loginStep env now p (serverBase env rnd up s p addr) true with
    | error e => rw [hl] at h; rw [h, hnew] at hreg; cases hreg
    | ok v =>
      rw [hl] at h
      rw [h.1, clientLookup_set_same] at hreg
      exact ⟨hpre, v.1, v.2, rfl, (Option.some.inj hreg).symm⟩
  · rw [ServerStream.processConnect_invalid env now rnd up s p addr hpre, hnew] at hreg; cases hreg

end Nx.L1
