import NxProofs.KeepAlive
/-! C02: `advance` settles — with positive resend and keep-alive periods every firing round moves the earliest deadline strictly
forward, so `T + 1` rounds are enough to reach an instant-`T` state with nothing due; the `Settled` hypothesis of the silence
bound can be discharged. -/
namespace Nx.L1

/-- every repeating timer has a positive period -/
def RepPos (c : Conn) : Prop := ∀ t ∈ evs c, ∀ r, t.rep = some r → 0 < r

theorem round_fresh (env : Env) (c : Conn) (s : Sched) (d : Nat) (hs : c.sched = some s) (hrt : 0 < c.resendTimeout) (hrp : RepPos c)
    (hmin : ∀ t ∈ s.events, d ≤ t.deadline) :
    (c.round env s d).Settled d ∧ RepPos (c.round env s d) := by
  refine (fun h => ⟨fun t ht => (h t ht).1, fun t ht => (h t ht).2⟩) ((round_steps env c s d).inv
    (I := fun x => x.resendTimeout = c.resendTimeout ∧ ∀ t ∈ evs x, d < t.deadline ∧ ∀ r, t.rep = some r → 0 < r)
    (fun u x hu ⟨hx, h⟩ => ⟨(u.run_fixed x).rt.trans hx, ?_⟩) ⟨rfl, fun t ht => ?_⟩).2
  · -- what a fired task arms is one-shot and due one resend period after `d`
    rcases evs_run u x hu.ne.1 with e | ⟨_, e⟩ | ⟨now, _, _, _, hl, e⟩ <;> rw [e]
    · exact h
    · exact fun _ h => absurd h List.not_mem_nil
    · obtain rfl : now = d := by rw [hl] at hu; rcases hu with ⟨h, _⟩ | h | h | h <;> cases h; rfl
      exact List.forall_mem_append.mpr ⟨h, List.forall_mem_singleton.mpr ⟨hx ▸ Nat.lt_add_of_pos_right hrt, nofun⟩⟩
  · -- the wheel the round starts from: what was not due is later than `d`, a repeating timer that was due comes back a positive period later
    rcases (mem_takeDue s d t).mp ht with ⟨hin, hlt⟩ | ⟨t0, hin, _, r, hr, rfl⟩
    · exact ⟨hlt, hrp t (evs_some hs ▸ hin)⟩
    · have hpos : 0 < r := hrp t0 (evs_some hs ▸ hin) r hr
      exact ⟨Nat.lt_of_le_of_lt (hmin t0 hin) (Nat.lt_add_of_pos_right hpos), fun r' hr' => by cases hr.symm.trans hr'; exact hpos⟩

theorem advance_settles (env : Env) (T : Nat) : ∀ (fuel : Nat) (c : Conn) (lo : Nat), 0 < c.resendTimeout → RepPos c →
    (∀ t ∈ evs c, lo ≤ t.deadline) → T + 1 ≤ lo + fuel → (Conn.advance env fuel T c).1.Settled T := by
  intro fuel
  induction fuel with
  | zero => exact fun c lo _ _ hlo hf t ht => Nat.lt_of_lt_of_le (Nat.lt_of_succ_le hf) (hlo t ht)
  | succ n ih =>
    intro c lo hrt hrp hlo hf
    rcases advance_succ env n T c with ⟨e, h⟩ | ⟨s, d, hs, hd, _, e⟩ <;> rw [e]
    · exact h
    · obtain ⟨⟨t0, ht0, he⟩, hmin⟩ := (nextDeadline_spec s).2 d hd
      have hr := round_fresh env c s d hs hrt hrp hmin
      apply ih _ (d + 1) (by rw [(round_steps env c s d).fixed.rt]; exact hrt) hr.2 hr.1
      have hdlo : lo ≤ d := he ▸ hlo t0 (evs_some hs ▸ ht0)
      omega

theorem silence_bound_total (env : Env) (T D : Nat) (c : Conn) (h : c.Doomed D) (hT : D ≤ T)
    (hrt : 0 < c.resendTimeout) (hrp : RepPos c) : (Conn.advance env (T + 1) T c).1.Dead :=
  silence_bound env (T + 1) T D c h hT
    (advance_settles env T (T + 1) c 0 hrt hrp (fun _ _ => Nat.zero_le _) (by omega))

theorem serve_reppos (c : Conn) (now : Time) (h : 0 < c.pingTimeout) : RepPos (c.serve now) := by
  intro t ht r hr
  rw [evs_serve, List.mem_singleton] at ht
  subst ht
  cases hr
  exact h

end Nx.L1
