import NxModel.Bytes
/-! Lemmas about `NxModel/Bytes.lean`, and what every area needs besides: the shapes a `do` block over `Except` is made
of, and one fact about `List.find?`.

The model has one writer (`u8 u16le u32le u64le`), one stream reader (`rdU8 … rdU64`) and one slice reader
(`n8 … n64le`) per width, each written out byte by byte. The 8-, 16- and 32-bit writers and stream readers and `n32le` are
instances of two functions that are generic in the width, `leBytes k` and `leNat`, which are inverse to each other; a
per-width fact is a rewrite to those followed by a generic lemma. A 64-bit value is two 32-bit halves, as in the model;
a big-endian value is `leNat` of the reversed string. -/
namespace Nx

@[simp] theorem b8_toNat (n : Nat) : (b8 n).toNat = n % 256 := by
  simp [b8, UInt8.toNat_ofNat']

theorem b8_toNat_self (a : UInt8) : b8 a.toNat = a := UInt8.ofNat_toNat

@[simp] theorem u8_length (n : Nat) : (u8 n).length = 1 := rfl
@[simp] theorem u16le_length (n : Nat) : (u16le n).length = 2 := rfl
@[simp] theorem u32le_length (n : Nat) : (u32le n).length = 4 := rfl
@[simp] theorem u64le_length (n : Nat) : (u64le n).length = 8 := rfl

/-! ### `stream.read(n)` -/

theorem rd_append' {n : Nat} (a r : Bytes) (h : a.length = n) : rd n (a ++ r) = .ok (a, r) := by
  subst h; simp [rd]

theorem rd_append (a r : Bytes) : rd a.length (a ++ r) = .ok (a, r) := rd_append' a r rfl

theorem rd_inv {n : Nat} {b x r : Bytes} (h : rd n b = .ok (x, r)) : b = x ++ r ∧ x.length = n := by
  unfold rd at h
  split at h
  · cases h; exact ⟨(List.take_append_drop n b).symm, List.length_take_of_le ‹_›⟩
  · cases h

theorem rd_len {n : Nat} {b x r : Bytes} (h : rd n b = .ok (x, r)) : b.length = r.length + n := by
  obtain ⟨rfl, rfl⟩ := rd_inv h; rw [List.length_append, Nat.add_comm]

theorem rd_short {n : Nat} {b : Bytes} (h : b.length < n) : rd n b = .error .overflow := by
  unfold rd; rw [if_neg (by omega)]

/-! ### the shapes a `do` block over `Except` is made of, and what a successful one tells

`bind_ok` … `ite_ok` apply to `h : f … = .ok b` without unfolding `f` first: the unifier does that. -/

/-- core's `pure_bind` is stated for `pure a`, which `rw` and `simp only` do not unfold to the `Except.ok a` the read lemmas give -/
theorem ok_bind {ε α β : Type} (a : α) (f : α → Except ε β) : (Except.ok a >>= f) = f a := rfl

theorem bind_ok {α β : Type} {x : Except Err α} {f : α → Except Err β} {b : β}
    (h : (x >>= f) = .ok b) : ∃ a, x = .ok a ∧ f a = .ok b := by
  cases x with
  | error e => cases h
  | ok a => exact ⟨a, rfl, h⟩

theorem bind_pure_ok {α β : Type} {x : Except Err α} {f : α → β} {b : β}
    (h : (do let a ← x; pure (f a)) = .ok b) : ∃ a, x = .ok a ∧ b = f a := by
  obtain ⟨a, ha, h⟩ := bind_ok h
  exact ⟨a, ha, (Except.ok.inj h).symm⟩

theorem guard_ok {α : Type} {c : Prop} [Decidable c] {x b : α} {e : Err}
    (h : (if c then Except.ok x else Except.error e) = Except.ok b) : c ∧ b = x := by
  by_cases hc : c
  · rw [if_pos hc] at h; exact ⟨hc, (Except.ok.inj h).symm⟩
  · rw [if_neg hc] at h; cases h

theorem guard_ok_iff {α : Type} {c : Prop} [Decidable c] {x : α} {e : Err} :
    (∃ b, (if c then Except.ok x else Except.error e) = Except.ok b) ↔ c :=
  ⟨fun ⟨_, h⟩ => (guard_ok h).1, fun hc => ⟨x, if_pos hc⟩⟩

/-- `if c then throw e` in front of the rest of a `do` block -/
theorem of_ite_error {α : Type} {c : Prop} [Decidable c] {e : Err} {y : Except Err α} {b : α}
    (h : (if c then .error e else y) = .ok b) : ¬ c ∧ y = .ok b := by
  by_cases hc : c
  · rw [if_pos hc] at h; cases h
  · rw [if_neg hc] at h; exact ⟨hc, h⟩

theorem ite_ok {α : Type} {c : Prop} [Decidable c] {y : Except Err α} {e : Err} {b : α}
    (h : (if c then y else .error e) = .ok b) : c ∧ y = .ok b := by
  by_cases hc : c
  · rw [if_pos hc] at h; exact ⟨hc, h⟩
  · rw [if_neg hc] at h; cases h

theorem ite_ite_and {α : Type} {p q : Prop} [Decidable p] [Decidable q] (a b : α) :
    (if p then (if q then a else b) else b) = if p ∧ q then a else b := by
  by_cases hp : p <;> by_cases hq : q <;> simp [hp, hq]

/-! ### little-endian integers of any width: `leNat` and `leBytes k` are inverse to each other -/

/-- value of a byte string read least significant byte first -/
def leNat : Bytes → Nat
  | [] => 0
  | a :: r => a.toNat + 256 * leNat r

/-- the `k` low-order bytes of `n`, least significant first -/
def leBytes : Nat → Nat → Bytes
  | 0, _ => []
  | k + 1, n => b8 n :: leBytes k (n / 256)

theorem leBytes_length (k n : Nat) : (leBytes k n).length = k := by
  induction k generalizing n with
  | zero => rfl
  | succ k ih => simp [leBytes, ih]

theorem leNat_leBytes (k n : Nat) : leNat (leBytes k n) = n % 256 ^ k := by
  induction k generalizing n with
  | zero => rw [Nat.pow_zero, Nat.mod_one]; rfl
  | succ k ih => rw [leBytes, leNat, ih, b8_toNat, Nat.pow_succ', Nat.mod_mul]

theorem leNat_lt (b : Bytes) : leNat b < 256 ^ b.length := by
  induction b with
  | nil => simp [leNat]
  | cons a r ih => have := a.toNat_lt; simp only [leNat, List.length_cons, Nat.pow_succ]; omega

theorem leBytes_leNat (b : Bytes) : leBytes b.length (leNat b) = b := by
  induction b with
  | nil => rfl
  | cons a r ih =>
    have := a.toNat_lt
    have e1 : b8 (a.toNat + 256 * leNat r) = a := by
      apply UInt8.toNat_inj.mp; rw [b8_toNat]; omega
    have e2 : (a.toNat + 256 * leNat r) / 256 = leNat r := by omega
    rw [List.length_cons, leNat, leBytes, e1, e2, ih]

theorem leBytes_inj {k a b : Nat} (ha : a < 256 ^ k) (hb : b < 256 ^ k) (h : leBytes k a = leBytes k b) : a = b := by
  have := congrArg leNat h
  rwa [leNat_leBytes, leNat_leBytes, Nat.mod_eq_of_lt ha, Nat.mod_eq_of_lt hb] at this

theorem leNat_eq_iff (l : Bytes) (N : Nat) :
    leNat l = N ↔ N < 256 ^ l.length ∧ ∀ k, k < l.length → (l.getD k 0).toNat = N / 256 ^ k % 256 := by
  induction l generalizing N with
  | nil => simp [leNat]; omega
  | cons x l ih =>
    have hx := x.toNat_lt
    -- the head is the lowest digit, the tail spells `N / 256`
    have step : ∀ A, x.toNat + A * 256 = N ↔ A = N / 256 ∧ x.toNat = N % 256 := by omega
    simp only [leNat, step, ih, List.length_cons, Nat.forall_lt_succ_left, List.getD_cons_zero,
      List.getD_cons_succ, Nat.pow_zero, Nat.div_one, Nat.pow_succ, Nat.div_div_eq_div_mul, Nat.mul_comm 256]
    rw [Nat.div_lt_iff_lt_mul (by omega)]
    constructor
    · rintro ⟨⟨a, b⟩, c⟩; exact ⟨a, c, b⟩
    · rintro ⟨a, c, b⟩; exact ⟨⟨a, b⟩, c⟩

/-- `struct.unpack` of `stream.read(k)`, little-endian -/
def rdLeNat (k : Nat) (b : Bytes) : Except Err (Nat × Bytes) := (rd k b).map fun x => (leNat x.1, x.2)

theorem rdLeNat_leBytes (k n : Nat) (r : Bytes) : rdLeNat k (leBytes k n ++ r) = .ok (n % 256 ^ k, r) := by
  rw [rdLeNat, rd_append' _ _ (leBytes_length k n), ← leNat_leBytes]; rfl

theorem rdLeNat_leBytes_of_lt {k n : Nat} (h : n < 256 ^ k) (r : Bytes) : rdLeNat k (leBytes k n ++ r) = .ok (n, r) := by
  rw [rdLeNat_leBytes, Nat.mod_eq_of_lt h]

theorem rdLeNat_inv {k : Nat} {b r : Bytes} {n : Nat} (h : rdLeNat k b = .ok (n, r)) :
    b = leBytes k n ++ r ∧ n < 256 ^ k := by
  unfold rdLeNat at h
  cases hx : rd k b with
  | error e => rw [hx] at h; cases h
  | ok x =>
    rw [hx] at h; cases h
    obtain ⟨hb, hl⟩ := rd_inv hx
    subst hl
    exact ⟨by rw [leBytes_leNat]; exact hb, leNat_lt _⟩

/-! ### the model's writers and readers are `leBytes` and `rdLeNat` (`u8 = leBytes 1` and `u16le = leBytes 2` by `rfl`) -/

theorem u32le_eq (n : Nat) : u32le n = leBytes 4 n := by
  simp [u32le, leBytes, Nat.div_div_eq_div_mul]

theorem rdU8_eq (b : Bytes) : rdU8 b = rdLeNat 1 b := by
  match b with
  | [] => rfl
  | a :: r => simp [rdU8, rdLeNat, rd, Except.map, leNat]

theorem rdU16_eq (b : Bytes) : rdU16 b = rdLeNat 2 b := by
  match b with
  | [] | [_] => rfl
  | a :: c :: r => simp [rdU16, rdLeNat, rd, Except.map, leNat]

theorem rdU32_eq (b : Bytes) : rdU32 b = rdLeNat 4 b := by
  match b with
  | [] | [_] | [_, _] | [_, _, _] => rfl
  | a :: c :: d :: e :: r => simp [rdU32, rdLeNat, rd, Except.map, leNat]; omega

theorem n32le_eq {b : Bytes} (h : b.length = 4) : n32le b = leNat b := by
  match b, h with
  | [a, c, d, e], _ => simp [n32le, leNat]; omega

theorem rdU8_u8 (n : Nat) (r : Bytes) (h : n < 256) : rdU8 (u8 n ++ r) = .ok (n, r) :=
  rdU8_eq _ ▸ rdLeNat_leBytes_of_lt (k := 1) h r
theorem rdU16_u16le (n : Nat) (r : Bytes) (h : n < 65536) : rdU16 (u16le n ++ r) = .ok (n, r) :=
  rdU16_eq _ ▸ rdLeNat_leBytes_of_lt (k := 2) h r
theorem rdU32_u32le_mod (n : Nat) (r : Bytes) : rdU32 (u32le n ++ r) = .ok (n % 4294967296, r) := by
  rw [rdU32_eq, u32le_eq]; exact rdLeNat_leBytes 4 n r
theorem rdU32_u32le (n : Nat) (r : Bytes) (h : n < 4294967296) : rdU32 (u32le n ++ r) = .ok (n, r) := by
  rw [rdU32_u32le_mod, Nat.mod_eq_of_lt h]

theorem rdU64_u64le (n : Nat) (r : Bytes) (h : n < 18446744073709551616) :
    rdU64 (u64le n ++ r) = .ok (n, r) := by
  unfold rdU64 u64le
  rw [List.append_assoc, rdU32_u32le_mod]
  simp only []
  rw [rdU32_u32le _ _ (by omega)]
  simp only [Except.ok.injEq, Prod.mk.injEq, and_true]
  omega

theorem rdU8_inv {b : Bytes} {n : Nat} {r : Bytes} (h : rdU8 b = .ok (n, r)) : b = u8 n ++ r ∧ n < 256 :=
  rdLeNat_inv (rdU8_eq b ▸ h)
theorem rdU16_inv {b : Bytes} {n : Nat} {r : Bytes} (h : rdU16 b = .ok (n, r)) : b = u16le n ++ r ∧ n < 65536 :=
  rdLeNat_inv (rdU16_eq b ▸ h)
theorem rdU32_inv {b : Bytes} {n : Nat} {r : Bytes} (h : rdU32 b = .ok (n, r)) :
    b = u32le n ++ r ∧ n < 4294967296 :=
  u32le_eq n ▸ rdLeNat_inv (rdU32_eq b ▸ h)

theorem rdU8_len {b r : Bytes} {n : Nat} (h : rdU8 b = .ok (n, r)) : b.length = r.length + 1 := by
  rw [(rdU8_inv h).1, List.length_append, u8_length, Nat.add_comm]
theorem rdU16_len {b r : Bytes} {n : Nat} (h : rdU16 b = .ok (n, r)) : b.length = r.length + 2 := by
  rw [(rdU16_inv h).1, List.length_append, u16le_length, Nat.add_comm]
theorem rdU32_len {b r : Bytes} {n : Nat} (h : rdU32 b = .ok (n, r)) : b.length = r.length + 4 := by
  rw [(rdU32_inv h).1, List.length_append, u32le_length, Nat.add_comm]

theorem rdU32_short {d : Bytes} (h : d.length < 4) : rdU32 d = .error .overflow := by
  rw [rdU32_eq, rdLeNat, rd_short h]; rfl

theorem n32le_u32le (n : Nat) : n32le (u32le n) = n % 4294967296 := by
  rw [n32le_eq (u32le_length n), u32le_eq]; exact leNat_leBytes 4 n

theorem u32le_n32le {b : Bytes} (h : b.length = 4) : u32le (n32le b) = b := by
  rw [n32le_eq h, u32le_eq, ← h, leBytes_leNat]

theorem n32le_eq_iff {b : Bytes} {n : Nat} (hb : b.length = 4) (hn : n < 4294967296) :
    n32le b = n ↔ b = u32le n :=
  ⟨fun h => h ▸ (u32le_n32le hb).symm, fun h => by rw [h, n32le_u32le, Nat.mod_eq_of_lt hn]⟩

theorem eq_u32le_append_iff {data : Bytes} {x y : Nat} (hx : x < 4294967296) (hy : y < 4294967296) :
    data = u32le x ++ u32le y ↔ data.length = 8 ∧ n32le (data.take 4) = x ∧ n32le (data.drop 4) = y := by
  constructor
  · rintro rfl
    rw [List.take_left' (u32le_length x), List.drop_left' (u32le_length x), n32le_u32le, n32le_u32le,
      Nat.mod_eq_of_lt hx, Nat.mod_eq_of_lt hy]
    exact ⟨rfl, rfl, rfl⟩
  · rintro ⟨hl, h1, h2⟩
    rw [n32le_eq_iff (by simp; omega) hx] at h1
    rw [n32le_eq_iff (by simp; omega) hy] at h2
    rw [← h1, ← h2, List.take_append_drop]

/-! ### one fact about `List.find?` -/

theorem find?_beq_of_nodup_map {α β : Type} [BEq β] [LawfulBEq β] (f : α → β) {l : List α} (hn : (l.map f).Nodup) {a : α}
    (ha : a ∈ l) : l.find? (fun x => f x == f a) = some a := by
  induction l with
  | nil => cases ha
  | cons x l ih =>
    rw [List.map_cons, List.nodup_cons] at hn
    rcases List.mem_cons.mp ha with rfl | ha
    · simp
    · have : f x ≠ f a := fun e => hn.1 (e ▸ List.mem_map_of_mem ha)
      simpa [List.find?_cons, this] using ih hn.2 ha

/-! ### big endian: the same digits, read from the other end

The model writes a big-endian value as a `foldl` (`Crypto.bytesToNatBE`, `Switch.be64`) and a little-endian one as the mirrored
`foldr` (`Switch.le32`): the `foldr` is `leNat`, the `foldl` is `leNat` of the reverse. -/

theorem foldr_eq_leNat (l : Bytes) : l.foldr (fun x acc => acc * 256 + x.toNat) 0 = leNat l := by
  induction l with
  | nil => rfl
  | cons x l ih => rw [List.foldr_cons, ih, leNat, Nat.add_comm, Nat.mul_comm]

theorem foldl_eq_leNat_reverse (l : Bytes) : l.foldl (fun acc x => acc * 256 + x.toNat) 0 = leNat l.reverse := by
  rw [← List.foldr_reverse, foldr_eq_leNat]

theorem beVal_eq_iff (l : Bytes) (N : Nat) :
    l.foldl (fun acc x => acc * 256 + x.toNat) 0 = N ↔
      N < 256 ^ l.length ∧ ∀ k, k < l.length → (l.getD k 0).toNat = N / 256 ^ (l.length - 1 - k) % 256 := by
  rw [foldl_eq_leNat_reverse, leNat_eq_iff, List.length_reverse]
  refine and_congr_right fun _ => ⟨fun h k hk => ?_, fun h k hk => ?_⟩
  · have := h (l.length - 1 - k) (by omega)
    rwa [List.getD_eq_getElem?_getD, List.getElem?_reverse (by omega), ← List.getD_eq_getElem?_getD,
      show l.length - 1 - (l.length - 1 - k) = k by omega] at this
  · rw [List.getD_eq_getElem?_getD, List.getElem?_reverse hk, ← List.getD_eq_getElem?_getD, h _ (by omega),
      show l.length - 1 - (l.length - 1 - k) = k by omega]

end Nx
