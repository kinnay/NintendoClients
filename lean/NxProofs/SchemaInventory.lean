import NxModel.Nex.SchemaInventory
namespace Nx.Schema.Inv

theorem missing_nil_iff (a b : List Nat) : (missing a b).isEmpty = true ↔ ∀ x ∈ a, x ∈ b := by
  simp [missing, List.isEmpty_iff, List.filter_eq_nil_iff]

theorem inventoryOK_iff (p m d : List Nat) (h : inventoryOK p m d = true) :
    (∀ x, x ∈ p ↔ x ∈ m) ∧ (∀ x, x ∈ p ↔ x ∈ d) := by
  simp only [inventoryOK, Bool.and_eq_true] at h
  obtain ⟨⟨⟨⟨⟨⟨h1, h2⟩, h3⟩, h4⟩, _⟩, _⟩, _⟩ := h
  rw [missing_nil_iff] at h1 h2 h3 h4
  exact ⟨fun x => ⟨h1 x, h2 x⟩, fun x => ⟨h3 x, h4 x⟩⟩

theorem run_complete (p m d : List Nat) (h : inventoryOK p m d = true) :
    (∀ x ∈ p, x ∈ m ∧ x ∈ d) ∧ (∀ x, x ∈ m ∨ x ∈ d → x ∈ p) := by
  obtain ⟨hm, hd⟩ := inventoryOK_iff p m d h
  exact ⟨fun x hx => ⟨(hm x).mp hx, (hd x).mp hx⟩, fun x hx => hx.elim (hm x).mpr (hd x).mpr⟩

end Nx.Schema.Inv
