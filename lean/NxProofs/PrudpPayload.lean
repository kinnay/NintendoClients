import NxModel.Prudp.Payload
import NxProofs.Bytes
/-! `NxModel/Prudp/Payload.lean`: `modify_key` and the unreliable key change a key byte by byte (`modifyKeyAux_get`, `addAt_get`)
and keep its length; entry `i` of the substream key list is `modifyKey` applied `i + 1` times (`substreamKeysFrom_get`) -/
namespace Nx.Prudp
open Nx.Crypto

theorem modifyKeyAux_length (add half : Nat) : ∀ (i : Nat) (k : Bytes), (modifyKeyAux add half i k).length = k.length := by
  intro i k
  induction k generalizing i with
  | nil => simp [modifyKeyAux]
  | cons x r ih => simp [modifyKeyAux, ih]

theorem modifyKeyAux_get (add half : Nat) : ∀ (i j : Nat) (k : Bytes),
    (modifyKeyAux add half i k)[j]? = k[j]?.map (fun x => if i + j < half then b8 (x.toNat + add - (i + j)) else x) := by
  intro i j k
  induction k generalizing i j with
  | nil => simp [modifyKeyAux]
  | cons x r ih =>
    cases j with
    | zero => simp [modifyKeyAux]
    | succ j =>
      simp only [modifyKeyAux, List.getElem?_cons_succ]
      rw [ih]
      have : i + 1 + j = i + (j + 1) := by omega
      rw [this]

theorem substreamKeysFrom_get (n : Nat) : ∀ (k : Bytes) (i : Nat), i < n →
    (substreamKeysFrom n k)[i]? = some (modifyKeyN (i + 1) k) := by
  induction n with
  | zero => intro k i h; omega
  | succ n ih =>
    intro k i h
    cases i with
    | zero => rfl
    | succ i => exact ih (modifyKey k) i (by omega)

theorem substreamKeysFrom_length : ∀ (n : Nat) (k : Bytes), (substreamKeysFrom n k).length = n
  | 0, _ => rfl
  | n + 1, k => by rw [substreamKeysFrom, List.length_cons, substreamKeysFrom_length n]

theorem rc4New_ok {key : Bytes} (h : 0 < key.length ∧ key.length ≤ 256) : rc4New key = .ok (rc4Ksa key) := by
  unfold rc4New; rw [if_neg (by omega)]

theorem addAt_length (k : Bytes) (i v : Nat) : (addAt k i v).length = k.length := by
  unfold addAt; split <;> simp

theorem addAt_get (k : Bytes) (i v j : Nat) :
    (addAt k i v)[j]? = if j = i then k[j]?.map (fun x => b8 (x.toNat + v)) else k[j]? := by
  unfold addAt
  cases h : k[i]? with
  | none =>
    by_cases hj : j = i
    · subst hj; simp [h]
    · simp [hj]
  | some x =>
    by_cases hj : j = i
    · subst hj
      have hlt : j < k.length := by
        rcases List.getElem?_eq_some_iff.mp h with ⟨hlt, _⟩; exact hlt
      simp [h, List.getElem?_set_self hlt]
    · have : i ≠ j := fun e => hj e.symm
      simp [hj, List.getElem?_set_ne this]

theorem connectionRequestBody_length (pidSize pid cid check : Nat) :
    (connectionRequestBody pidSize pid cid check).length = (if pidSize = 8 then 8 else 4) + 8 := by
  unfold connectionRequestBody nexPid; split <;> simp

end Nx.Prudp
