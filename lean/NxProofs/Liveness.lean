import NxProofs.Channel
/-!
# C01 — the liveness half on the L2 channel: once every emitted packet has arrived at least once, everything is released

"Faults within the budget" means: of every packet at least one copy reaches the receiver (a packet is re-sent until it is
acknowledged or the budget is exhausted: `resend_chain` in `Timers.lean`, C02's `connect_bound`). What the receiver then does is this file, whatever the order, the
duplicates and the interleaving with sends and pings: every index that has arrived so far is released or buffered in the window
under its id (`Cov`), and with "the head of the window is never buffered" (`SInv`) an unreleased index that has arrived is impossible.
-/
namespace Nx.Chan

variable {α : Type}

/-- every index in `A` is released (`< r`) or buffered under its id, within half a window of the release point -/
def Cov (start : Nat) (A : List Nat) (w : Window α) (r : Nat) : Prop :=
  ∀ j ∈ A, j < r ∨ (j < r + 32768 ∧ idOf start j ∈ keys w.packets)

theorem step_receiver_of_sender_op (c : Cipher) (size : Nat) (ch : Chan) (op : Op) (h : ∀ j, op ≠ .arrive j) :
    (step c size ch op).r = ch.r := by
  cases op with
  | arrive j => exact absurd rfl (h j)
  | _ => rfl

theorem cov_arrive {c : Cipher} {start : Nat} {ch : Chan} {j : Nat} {w : Wire} {A : List Nat}
    (hs : SndInv c start ch.s) (hr : RcvInv c start ch) (hw : ch.s.log[j]? = some w)
    (h1 : j < ch.r.nrel + 32768) (h2 : ch.r.nrel < j + 32768) (hcl : ch.r.core.closed = false)
    (hcov : Cov start A ch.r.win ch.r.nrel) : Cov start (A ++ [j]) (ch.r.arrive c w).win (ch.r.arrive c w).nrel := by
  obtain ⟨r', hr', -, hn, -, -, hK⟩ := arrive_spec hs hr hw h1 h2 hcl
  rw [hn]
  intro k hk
  by_cases hkr : k < r'
  · exact Or.inl hkr
  · -- not released: `k` was buffered or has just arrived, within the old half window either way
    have hb : k < ch.r.nrel + 32768 ∧ (k = j ∨ idOf start k ∈ keys ch.r.win.packets) := by
      rcases List.mem_append.mp hk with hk | hk
      · exact (hcov k hk).elim (fun h => by omega) fun h => ⟨h.1, Or.inr h.2⟩
      · obtain rfl := List.mem_singleton.mp hk
        exact ⟨h1, Or.inl rfl⟩
    exact Or.inr ⟨by omega, hK k (Nat.le_of_not_lt hkr) hb.1 hb.2⟩

theorem cov_step (c : Cipher) (size start : Nat) (ch : Chan) (op : Op) (A : List Nat)
    (hs : SndInv c start ch.s) (hr : RcvInv c start ch) (hop : opOk ch op = true) (hcov : Cov start A ch.r.win ch.r.nrel) :
    Cov start (A ++ arrivedBy ch op) (step c size ch op).r.win (step c size ch op).r.nrel := by
  cases op with
  | arrive j =>
    cases hw : ch.s.log[j]? with
    | none => simpa [step, arrivedBy, hw] using hcov
    | some w =>
      cases hcl : ch.r.core.closed with
      | true => simpa [step, arrivedBy, hw, hcl, Receiver.arrive_closed c _ w hcl] using hcov
      | false =>
        have h12 := window_of_ok hop (List.getElem?_eq_some_iff.mp hw).1
        simpa [step, arrivedBy, hw, hcl] using cov_arrive hs hr hw h12.1 h12.2 hcl hcov
  | _ => simpa [step, arrivedBy] using hcov

/-- **liveness core.** If, in a run within the half-window hypothesis, every packet of the final log has arrived at least once
    while the receiver was open, then the window has released the whole log. -/
theorem all_arrived_all_released (c : Cipher) (hc : CipherOk c) (size : Nat) (hsz : 1 ≤ size) (start : Nat) (hs : start < 65536)
    (ops : List Op) (hok : runOk c size (init start) ops = true)
    (hopen : (run c size (init start) ops).r.core.closed = false)
    (hall : ∀ j, j < (run c size (init start) ops).s.log.length → j ∈ arrived c size (init start) ops) :
    (run c size (init start) ops).r.nrel = (run c size (init start) ops).s.log.length := by
  obtain ⟨⟨-, hR⟩, hcov⟩ := run_induct
    (P := fun A ch => (SndInv c start ch.s ∧ RcvInv c start ch) ∧ Cov start A ch.r.win ch.r.nrel)
    (fun A ch op h hop => ⟨inv_step c hc size hsz start ch op h.1.1 h.1.2 hop, cov_step c size start ch op A h.1.1 h.1.2 hop h.2⟩)
    ops [] (init start) ⟨inv_init c start hs, nofun⟩ hok
  -- the index at the release point has arrived, so it is buffered: but the head of the window never is
  refine Nat.le_antisymm hR.le (Nat.le_of_not_lt fun hlt => ?_)
  obtain ⟨hw, hnone⟩ := hR.win hopen
  rcases hcov _ (hall _ hlt) with h1 | ⟨_, h2⟩
  · omega
  · rw [hw.next] at hnone
    exact lookup_none_iff.mp hnone h2

end Nx.Chan
