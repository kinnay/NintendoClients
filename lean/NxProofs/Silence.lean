import NxProofs.Timers
/-! C02: the general silence bound — whatever timers are in flight, a connection that hears nothing is torn down no
later than (deadline of a pending retransmission) + (remaining retransmissions)·resend_timeout, resp.
(next keep-alive) + (resend_limit+1)·resend_timeout -/
namespace Nx.L1
open Nx.Prudp

/-- the waiters are released (timers may be re-armed by tasks that were already started; they are harmless) -/
def Conn.Dead (c : Conn) : Prop :=
  c.state = STATE_DISCONNECTED ∧ c.eof = true ∧ c.handshakeEvent = true ∧ c.closeEvent = true

theorem cleanup_dead (c : Conn) : c.cleanup.c.Dead := by
  simp [Conn.cleanup, Conn.Dead, R.ok]

theorem Conn.Dead.upd (u : Upd) (c : Conn) (h : c.Dead) : (u.run c).Dead := by
  cases u with
  | cleanup => exact cleanup_dead c
  | arm now p k => dsimp only [Upd.run]; unfold Conn.arm; cases c.sched <;> exact h
  | synAck p => dsimp only [Upd.run]; rw [if_pos h.1]; exact h
  | connectAck sid => exact ⟨h.1, h.2.1, rfl, h.2.2.2⟩
  | closing => dsimp only [Upd.run]; rw [if_neg (by rw [h.1]; decide)]; exact h
  | _ => exact h

theorem evs_run (u : Upd) (c : Conn) (hu : u.loc ≠ .cancel) :
    evs (u.run c) = evs c ∨ (u.run c).Dead ∧ evs (u.run c) = [] ∨
    ∃ now p k n, u.loc = .arm now ∧ evs (u.run c) = evs c ++ [⟨n, now + c.resendTimeout, none, .resend p k⟩] := by
  rcases u.run_timers c with ⟨hs, _⟩ | rfl | ⟨now, p, k, rfl⟩ | hc
  · exact Or.inl (evs_of_sched hs)
  · exact Or.inr (Or.inl ⟨cleanup_dead c, evs_cleanup c⟩)
  · exact (evs_arm c now p k).imp_right fun ⟨n, e⟩ => Or.inr ⟨now, p, k, n, rfl, e⟩
  · exact absurd hc hu

/-- the instant by which the retransmission chain started by a pending timer has run out -/
def tbound (limit rt : Nat) (t : Timer) : Nat :=
  match t.act with
  | .resend _ k => t.deadline + (limit - k) * rt
  | .ping => t.deadline + (limit + 1) * rt

theorem deadline_le_tbound (limit rt : Nat) (t : Timer) : t.deadline ≤ tbound limit rt t := by
  unfold tbound; cases t.act <;> simp

/-- dead, or some pending timer's chain runs out by `D` -/
def Conn.Doomed (c : Conn) (D : Nat) : Prop :=
  c.Dead ∨ ∃ t ∈ evs c, tbound c.resendLimit c.resendTimeout t ≤ D

theorem Conn.Doomed.upd {D : Nat} (u : Upd) (c : Conn) (h : u.loc ≠ .cancel) (hd : c.Doomed D) : (u.run c).Doomed D := by
  rcases hd with d | ⟨t, ht, hb⟩
  · exact Or.inl (Conn.Dead.upd u c d)
  rw [← (u.run_fixed c).limit, ← (u.run_fixed c).rt] at hb
  rcases evs_run u c h with e | ⟨d, _⟩ | ⟨_, _, _, _, _, e⟩
  · exact Or.inr ⟨t, e ▸ ht, hb⟩
  · exact Or.inl d
  · exact Or.inr ⟨t, e ▸ List.mem_append_left _ ht, hb⟩

theorem Conn.Doomed.steps {F : Loc → Prop} {c c' : Conn} {D : Nat} (h : Steps F c c') (hF : ∀ l, F l → l ≠ .cancel) :
    c.Doomed D → c'.Doomed D := h.inv fun u c hu => Conn.Doomed.upd u c (hF _ hu)

theorem Conn.Doomed.mono {c : Conn} {D D' : Nat} (h : c.Doomed D) (hD : D ≤ D') : c.Doomed D' :=
  h.imp_right fun ⟨t, ht, hb⟩ => ⟨t, ht, Nat.le_trans hb hD⟩

theorem arm_doomed (c : Conn) (d : Nat) (p : Packet) (k : Nat) (hs : c.sched.isSome) :
    (c.arm d p k).Doomed (d + (c.resendLimit - k + 1) * c.resendTimeout) := by
  unfold Conn.arm
  cases h : c.sched with
  | none => rw [h] at hs; cases hs
  | some s =>
    refine Or.inr ⟨⟨s.nextHandle, d + c.resendTimeout, none, .resend p k⟩, List.mem_append_right _ (List.mem_singleton_self _),
      Nat.le_of_eq ?_⟩
    show d + c.resendTimeout + (c.resendLimit - k) * c.resendTimeout = _
    rw [Nat.add_assoc, Nat.add_comm c.resendTimeout, ← Nat.add_one_mul]

/-- a fired retransmission either ends the connection or leaves a timer whose chain ends at the same instant -/
theorem resend_doomed (env : Env) (d : Nat) (c : Conn) (p : Packet) (k : Nat) (hs : c.sched.isSome) :
    (c.resendPacket env d p k).c.Doomed (d + (c.resendLimit - k) * c.resendTimeout) := by
  rcases resendPacket_cases env d c p k with e | ⟨hk, e⟩ <;> rw [e]
  · exact Or.inl (cleanup_dead c)
  · exact (arm_doomed c d p (k + 1) hs).mono (Nat.add_le_add_left (Nat.mul_le_mul_right _ (Nat.sub_succ_lt_self _ k hk)) d)

theorem sendPacket_doomed (env : Env) (d : Nat) (c : Conn) (p : Packet) (hs : c.sched.isSome)
    (hp : ((hasReliable p.flags || p.type == TYPE_SYN) && hasNeedAck p.flags) = true) :
    (c.sendPacket env d p).err.isSome ∨ (c.sendPacket env d p).c.Doomed (d + (c.resendLimit + 1) * c.resendTimeout) := by
  rcases sendPacket_cases env d c p with ⟨he, _, _⟩ | ⟨c2, q, h, ht, hf, _, heq⟩
  · exact Or.inl he
  rw [heq, ← h.fixed.limit, ← h.fixed.rt]
  rcases transmit_cases env d c2 q with h' | h' | h'
  · right; rw [h'.2]; exact Or.inl (cleanup_dead c2)
  · left; exact h'.1
  · right; rw [h'.2, if_pos (by rw [hf, ht]; exact hp)]
    exact arm_doomed c2 d q 0 (by rw [h.fixed.some]; exact hs)

theorem fireOne_doomed (env : Env) (c : Conn) (t : Timer) (hs : c.sched.isSome) :
    (c.fireOne env t.deadline t.act).c.Doomed (tbound c.resendLimit c.resendTimeout t) := by
  unfold tbound
  cases t.act with
  | resend p k => rw [fireOne_resend]; exact resend_doomed env _ c p k hs
  | ping =>
    -- an exception in the ping ends the connection
    unfold Conn.fireOne
    simp only []
    cases he : (c.fire env t.deadline .ping).err with
    | some e => exact Or.inl (cleanup_dead _)
    | none =>
      rcases sendPacket_doomed env t.deadline c (mkPacket TYPE_PING (FLAG_RELIABLE + FLAG_NEED_ACK)) hs (by decide) with h | h
      · rw [show (c.sendPacket env _ _).err = none from he] at h; cases h
      · exact h

theorem fireAll_doomed (env : Env) (B : Nat) (t : Timer) : ∀ (as : List Action) (c : Conn), c.sched.isSome → t.act ∈ as →
    tbound c.resendLimit c.resendTimeout t ≤ B → (Conn.fireAll env t.deadline as c).c.Doomed B := by
  intro as
  induction as with
  | nil => intro c _ h; cases h
  | cons x xs ih =>
    intro c hs hm hb
    have h1 := (fireOne_steps env t.deadline c x).fixed
    cases List.mem_cons.mp hm with
    | inl heq =>
      subst heq
      exact Conn.Doomed.steps (fireAll_steps env _ xs _) (fun _ h => h.ne.1) ((fireOne_doomed env c t hs).mono hb)
    | inr hin =>
      apply ih _ (by rw [h1.some]; exact hs) hin
      rw [h1.limit, h1.rt]; exact hb

theorem round_doomed (env : Env) (c : Conn) (s : Sched) (d D : Nat) (hs : c.sched = some s) (hd : s.nextDeadline = some d)
    (h : c.Doomed D) : (c.round env s d).Doomed D := by
  have keep := Conn.Doomed.steps (D := D) (round_steps env c s d) fun _ h => h.ne.1
  rcases h with dd | ⟨t, ht, hb⟩
  · exact keep (Or.inl dd)
  rw [evs_some hs] at ht
  by_cases hdue : t.deadline ≤ d
  · -- fired, and at its own deadline since `d` is the earliest
    cases Nat.le_antisymm hdue (((nextDeadline_spec s).2 d hd).2 t ht)
    exact fireAll_doomed env D t _ _ rfl (act_mem_takeDue ht hdue) hb
  · exact keep (Or.inr ⟨t, (mem_takeDue s d t).mpr (Or.inl ⟨ht, Nat.lt_of_not_le hdue⟩), hb⟩)

theorem advance_doomed (env : Env) (T D : Nat) : ∀ (fuel : Nat) (c : Conn), c.Doomed D → (Conn.advance env fuel T c).1.Doomed D :=
  advance_invariant env T (·.Doomed D) fun c s d hs hd _ h => round_doomed env c s d D hs hd h

theorem Conn.Doomed.dead {c : Conn} {D T : Nat} (h : c.Doomed D) (hT : D ≤ T) (hset : c.Settled T) : c.Dead :=
  h.elim id fun ⟨t, ht, hb⟩ =>
    absurd (hset t ht) (Nat.not_lt.mpr (Nat.le_trans (deadline_le_tbound _ _ t) (Nat.le_trans hb hT)))

/-- **the silence bound** (`Nx.C02.silence_bound`): `Doomed` is kept while only timers fire, and where nothing is due at a `T ≥ D`
    no timer is left whose chain could run out by `D`, so of `Doomed` only `Dead` remains -/
theorem silence_bound (env : Env) (fuel T D : Nat) (c : Conn) (h : c.Doomed D) (hT : D ≤ T)
    (hset : (Conn.advance env fuel T c).1.Settled T) : (Conn.advance env fuel T c).1.Dead :=
  (advance_doomed env T D fuel c h).dead hT hset

end Nx.L1
