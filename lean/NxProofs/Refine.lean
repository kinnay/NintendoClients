import NxProofs.Window
import NxProofs.Rc4At
import NxProofs.ChannelWell
import NxProofs.Footprint
import NxProofs.SetAt
/-! C01: the receive path of the L1 endpoint refines the L2 channel receiver. `Window.update` does not look at what it
stores (naturality), the release loop of `process_reliable` is `Core.consume` on the projected packets, so the deliveries
of a real endpoint are those the L2 theorems (`C01_safety`, …) speak about. -/
namespace Nx.L1
open Nx.Prudp Nx.Chan

def kindOf (p : Packet) : Kind :=
  if p.type = TYPE_DATA then .data p.fragmentId else if p.type = TYPE_DISCONNECT then .disconnect else .ping

/-- a reliable packet as the L2 channel sees it -/
def wireOf (p : Packet) : Wire := ⟨p.packetId, kindOf p, p.payload⟩

/-- the L2 cipher of substream `sub` of a connection: RC4 at a position on UDP transports, the identity on stream transports -/
def cipherOf (c : Conn) (sub : Nat) : Cipher :=
  let key := (c.relCiphers[sub]?.map StreamCipher.key).getD []
  { enc := fun pos d => if c.cipherOn then rc4At key pos d else d,
    dec := fun pos d => if c.cipherOn then rc4At key pos d else d }

theorem cipherOf_congr {c c' : Conn} {sub : Nat} (hc : c'.cipherOn = c.cipherOn)
    (hk : (c'.relCiphers[sub]?).map StreamCipher.key = (c.relCiphers[sub]?).map StreamCipher.key) : cipherOf c' sub = cipherOf c sub := by
  simp only [cipherOf, hk, hc]

theorem cipherOf_on {c : Conn} {sub : Nat} {sc : StreamCipher} (hsc : c.relCiphers[sub]? = some sc) (hon : c.cipherOn = true) :
    cipherOf c sub = ⟨rc4At sc.key, rc4At sc.key⟩ := by
  simp only [cipherOf, hsc, hon, if_true, Option.map, Option.getD]

theorem cipherOf_off {c : Conn} (sub : Nat) (hoff : c.cipherOn = false) : cipherOf c sub = ⟨fun _ d => d, fun _ d => d⟩ := by
  simp only [cipherOf, hoff, Bool.false_eq_true, if_false]

/-- the L2 cipher with the connection's compression around it: encode = cipher after `compress`, decode = `decompress` after
    cipher (a failing `decompress` raises in the code; in the channel it yields the empty string — the two never part, because
    what the window releases is an encoding made at the position where the receiver stands: `released_well`, `decode_ok_of_well`) -/
def wrap (env : Env) (ci : Cipher) : Cipher :=
  { enc := fun pos d => ci.enc pos (env.compress d),
    dec := fun pos y => match env.decompress (ci.dec pos y) with
      | .ok d => d
      | .error _ => [] }

/-- what the theorems assume of the connection's compression (none, or zlib): decompressing a compressed fragment returns
    it, and a non-empty fragment never compresses to the empty string. Both hold for the identity; for zlib they are
    assumptions on `zlib.compress` (which the model does not reproduce byte for byte) that the correspondence run validates
    on every fragment it sees, with the Lean inflater. -/
structure EnvLaws (env : Env) : Prop where
  round : ∀ b, env.decompress (env.compress b) = .ok b
  nonempty : ∀ b, b ≠ [] → env.compress b ≠ []

theorem wrap_ok (env : Env) (hl : EnvLaws env) (ci : Cipher) (h : CipherOk ci) : CipherOk (wrap env ci) := by
  refine ⟨fun p x => ?_, fun p x hx => ?_⟩
  · simp only [wrap, h.dec_enc, hl.round]
  · exact h.enc_ne p _ (hl.nonempty x hx)

theorem envLaws_of_id (env : Env) (hcomp : ∀ b, env.compress b = b) (hdec : ∀ b, env.decompress b = .ok b) : EnvLaws env :=
  ⟨fun b => by rw [hcomp, hdec], fun b hb => by rw [hcomp]; exact hb⟩

/-- the cipher of a substream of an endpoint meets the channel's cipher hypothesis, whatever the key -/
theorem cipherOf_ok (c : Conn) (sub : Nat) : CipherOk (cipherOf c sub) := by
  unfold cipherOf
  cases c.cipherOn with
  | false => exact ⟨fun _ _ => rfl, fun _ _ h => h⟩
  | true =>
    have h := xorCipher_ok (rc4Ks ((c.relCiphers[sub]?.map StreamCipher.key).getD []))
    refine ⟨fun p x => ?_, fun p x hx => ?_⟩
    · simp only [rc4At_eq_xorAt]; exact h.dec_enc p x
    · simp only [rc4At_eq_xorAt]; exact h.enc_ne p x hx

def SubWF (c : Conn) (sub : Nat) : Prop :=
  sub < c.relCiphers.length ∧ sub < c.fragBufs.length ∧ sub < c.queues.length

/-- abstraction relation between the application side of substream `sub` and an L2 `Core` -/
structure RRel (c : Conn) (sub : Nat) (core : Core) : Prop where
  closed : core.closed = c.eof
  out : core.reasm.out = (c.queues[sub]?.getD [])
  live : c.eof = false → core.reasm.buf = (c.fragBufs[sub]?.getD []) ∧
    (c.cipherOn = true → ∃ sc, c.relCiphers[sub]? = some sc ∧ core.decPos = sc.decPos)

/-- No operation changes the length of a table, a key or the cipher switch: a substream stays well-formed and keeps its L2 cipher. -/
theorem Steps.keeps {F : Loc → Prop} {c c' : Conn} (h : Steps F c c') (sub : Nat) :
    (SubWF c sub → SubWF c' sub) ∧ cipherOf c' sub = cipherOf c sub :=
  h.frame (X := fun a b => (SubWF a sub → SubWF b sub) ∧ cipherOf b sub = cipherOf a sub) (fun _ => ⟨id, rfl⟩)
    (fun h1 h2 => ⟨h2.1 ∘ h1.1, h2.2.trans h1.2⟩) fun u c _ => by
    cases u with
    | arm now p k => dsimp only [Upd.run]; unfold Conn.arm; cases c.sched <;> exact ⟨id, rfl⟩
    | enc i n | dec i n =>
      exact ⟨fun hw => ⟨(List.length_modify ..).symm ▸ hw.1, hw.2.1, hw.2.2⟩,
        cipherOf_congr rfl (getElem?_modify_map _ _ _ _ _ (fun _ _ => rfl))⟩
    | buffer i b => exact ⟨fun hw => ⟨hw.1, (List.length_set ..).symm ▸ hw.2.1, hw.2.2⟩, rfl⟩
    | deliver i b q => exact ⟨fun hw => ⟨hw.1, (List.length_set ..).symm ▸ hw.2.1, (List.length_set ..).symm ▸ hw.2.2⟩, rfl⟩
    | synAck | closing => dsimp only [Upd.run]; split <;> exact ⟨id, rfl⟩
    | _ => exact ⟨id, rfl⟩

theorem consume_eof (env : Env) (sub : Nat) (rel : List Packet) (c : Conn) (he : c.eof = true) :
    (Conn.consume env sub rel c).c.eof = true ∧ (Conn.consume env sub rel c).c.queues[sub]? = c.queues[sub]? :=
  (consume_invariant env sub (fun c' => c'.eof = true ∧ c'.queues[sub]? = c.queues[sub]?) rel
    (fun c0 p d c1 _ h hd => by rcases decodePayload_conn env c0 c1 p d hd with rfl | ⟨_, _, rfl⟩ <;> exact h)
    (fun _ _ h => h) (fun _ _ _ h hf => absurd (h.1.symm.trans hf) (by decide)) (fun _ h => ⟨rfl, h.2⟩) c ⟨he, rfl⟩).1

/-- the exceptions `PayloadEncoder.decode` can raise: an IndexError (no cipher for the substream) or whatever `decompress` raised -/
theorem decodePayload_err_kind (env : Env) (c : Conn) (p : Packet) (e : Err) (h : c.decodePayload env p = .error e) :
    e = .index ∨ ∃ b, env.decompress b = .error e := by
  rcases decodePayload_cases env c p with h' | ⟨b, _, hb, h'⟩ | ⟨_, h'⟩ | ⟨_, _, _, h'⟩ <;> rw [h'] at h <;> cases h
  · exact Or.inl rfl
  · exact Or.inr ⟨b, hb⟩

theorem SubWF.cipher {c : Conn} {sub : Nat} (h : SubWF c sub) : ∃ sc, c.relCiphers[sub]? = some sc :=
  ⟨c.relCiphers[sub]'h.1, List.getElem?_eq_getElem h.1⟩

theorem decodePayload_reliable (env : Env) (c : Conn) (p : Packet) (sc : StreamCipher) (hrel : hasReliable p.flags = true)
    (hsc : c.relCiphers[p.substreamId]? = some sc) :
    c.decodePayload env p =
      if p.type = TYPE_DATA ∧ (!p.payload.isEmpty) = true then
        match env.decompress ((cipherOf c p.substreamId).dec sc.decPos p.payload) with
        | .ok d => .ok (d, if c.cipherOn then
            { c with relCiphers := setAt c.relCiphers p.substreamId { sc with decPos := sc.decPos + p.payload.length } } else c)
        | .error e => .error e
      else .ok (p.payload, c) := by
  by_cases h1 : p.type = TYPE_DATA ∧ (!p.payload.isEmpty) = true
  · rw [if_pos h1]
    cases h4 : c.cipherOn with
    | true =>
      rw [decodePayload_rel_on env c p sc h1 hrel hsc h4]
      rw [cipherOf_on hsc h4, h4]; rfl
    | false =>
      rw [decodePayload_rel_off env c p sc h1 hrel hsc h4]
      rw [cipherOf_off _ h4]; rfl
  · rw [if_neg h1, decodePayload_plain env c p h1]

/-- one DATA packet through `PayloadEncoder.decode` is one application of the L2 cipher at the position the core tracks -/
theorem decode_step (env : Env) (hround : ∀ b, env.decompress (env.compress b) = .ok b) (sub : Nat) (c : Conn) (core : Core)
    (p : Packet) (hw : SubWF c sub) (hsub : p.substreamId = sub) (hrel : hasReliable p.flags = true) (ht : p.type = TYPE_DATA)
    (hpos : c.cipherOn = true → ∃ sc, c.relCiphers[sub]? = some sc ∧ core.decPos = sc.decPos)
    (hwp : p.payload = [] ∨ ∃ x, p.payload = (wrap env (cipherOf c sub)).enc core.decPos x) :
    ∃ data c1, c.decodePayload env p = .ok (data, c1) ∧
      data = (if p.payload.isEmpty then p.payload else (wrap env (cipherOf c sub)).dec core.decPos p.payload) ∧
      c1.eof = c.eof ∧ c1.queues = c.queues ∧ c1.fragBufs = c.fragBufs ∧ SubWF c1 sub ∧ cipherOf c1 sub = cipherOf c sub ∧
      (c1.cipherOn = true → ∃ sc', c1.relCiphers[sub]? = some sc' ∧ core.decPos + p.payload.length = sc'.decPos) := by
  subst hsub
  obtain ⟨sc, hsc⟩ := hw.cipher
  rw [decodePayload_reliable env c p sc hrel hsc]
  by_cases h1 : p.payload.isEmpty = true
  · rw [if_neg (by simp [h1]), if_pos h1]
    refine ⟨_, _, rfl, rfl, rfl, rfl, rfl, hw, rfl, fun hon => ?_⟩
    rw [show p.payload.length = 0 by simpa using h1]; exact hpos hon
  · obtain ⟨x, hx⟩ := hwp.resolve_left (fun he => h1 (by rw [he]; rfl))
    -- the cipher stands where the core stands (or is off, and then the position does not matter)
    have hdec : (cipherOf c p.substreamId).dec sc.decPos p.payload = env.compress x := by
      rw [hx]
      cases h4 : c.cipherOn with
      | true =>
        obtain ⟨sc0, h0, hp0⟩ := hpos h4
        rw [hsc] at h0; cases h0
        rw [← hp0]; exact (cipherOf_ok c _).dec_enc _ _
      | false => rw [cipherOf_off _ h4]; rfl
    rw [if_pos ⟨ht, by simp [h1]⟩, hdec, hround, if_neg h1]
    refine ⟨_, _, rfl, ?_, ?_⟩
    · rw [hx]; simp only [wrap]; rw [(cipherOf_ok c _).dec_enc, hround]
    · by_cases h4 : c.cipherOn = true
      · obtain ⟨sc0, h0, hp0⟩ := hpos h4
        rw [hsc] at h0; cases h0
        rw [if_pos h4]
        exact ⟨rfl, rfl, rfl, ⟨by show _ < (setAt _ _ _).length; rw [setAt, List.length_set]; exact hw.1, hw.2.1, hw.2.2⟩,
          cipherOf_congr rfl (by rw [get_set_self _ _ _ hw.1, hsc]; rfl),
          fun _ => ⟨_, get_set_self _ _ _ hw.1, by rw [hp0]⟩⟩
      · rw [if_neg h4]; exact ⟨rfl, rfl, rfl, hw, rfl, fun hon => absurd hon h4⟩

theorem decode_ok_of_well (env : Env) (hround : ∀ b, env.decompress (env.compress b) = .ok b) (sub : Nat) (c : Conn) (core : Core)
    (p : Packet) (hw : SubWF c sub) (hsub : p.substreamId = sub) (hrel : hasReliable p.flags = true) (ht : p.type = TYPE_DATA)
    (hpos : c.cipherOn = true → ∃ sc, c.relCiphers[sub]? = some sc ∧ core.decPos = sc.decPos)
    (hwp : p.payload = [] ∨ ∃ x, p.payload = (wrap env (cipherOf c sub)).enc core.decPos x) :
    ∃ v, c.decodePayload env p = .ok v :=
  have ⟨_, _, h, _⟩ := decode_step env hround sub c core p hw hsub hrel ht hpos hwp
  ⟨_, h⟩

/-- one decoded fragment on both sides: `fragment_buffers[s] += payload`, and for the last fragment `put(buffer)` and an empty
    buffer, is `Reasm.absorb` -/
theorem rrel_absorb {c1 c' : Conn} {sub : Nat} {core : Core} (fid : Nat) (data : Bytes) (pos' : Nat)
    (hw1 : SubWF c1 sub) (he1 : c1.eof = false)
    (hout : core.reasm.out = (c1.queues[sub]?.getD [])) (hbuf : core.reasm.buf = (c1.fragBufs[sub]?.getD []))
    (hpos : c1.cipherOn = true → ∃ sc, c1.relCiphers[sub]? = some sc ∧ pos' = sc.decPos)
    (hc' : c' = if fid = 0 then
        { c1 with fragBufs := setAt c1.fragBufs sub [],
                  queues := setAt c1.queues sub ((c1.queues[sub]?.getD []) ++ [(c1.fragBufs[sub]?.getD []) ++ data]) }
      else { c1 with fragBufs := setAt c1.fragBufs sub ((c1.fragBufs[sub]?.getD []) ++ data) }) :
    RRel c' sub ⟨pos', core.reasm.absorb fid data, false⟩ ∧ SubWF c' sub ∧
      cipherOf c' sub = cipherOf c1 sub := by
  have hfb (x : Bytes) : sub < (setAt c1.fragBufs sub x).length := by simp only [setAt, List.length_set]; exact hw1.2.1
  have hq (x : List Bytes) : sub < (setAt c1.queues sub x).length := by simp only [setAt, List.length_set]; exact hw1.2.2
  by_cases hf : fid = 0
  · rw [if_pos hf] at hc'; subst hc'
    refine ⟨⟨he1.symm, ?_, fun _ => ⟨?_, hpos⟩⟩, ⟨hw1.1, hfb _, hq _⟩, rfl⟩
    · rw [get_set_self _ _ _ hw1.2.2]; simp [Reasm.absorb, hf, hout, hbuf]
    · rw [get_set_self _ _ _ hw1.2.1]; simp [Reasm.absorb, hf]
  · rw [if_neg hf] at hc'; subst hc'
    refine ⟨⟨he1.symm, ?_, fun _ => ⟨?_, hpos⟩⟩, ⟨hw1.1, hfb _, hw1.2.2⟩, rfl⟩
    · simp [Reasm.absorb, hf, hout]
    · rw [get_set_self _ _ _ hw1.2.1]; simp [Reasm.absorb, hf, hbuf]

/-- **the release loop of `process_reliable` is `Core.consume`** on the projected packets -/
theorem consume_refines (env : Env) (hround : ∀ b, env.decompress (env.compress b) = .ok b) (sub : Nat) (ci : Cipher) :
    ∀ (rel : List Packet) (c : Conn) (core : Core), SubWF c sub → cipherOf c sub = ci →
      (∀ q ∈ rel, q.substreamId = sub ∧ hasReliable q.flags = true) →
      Core.wellAt (wrap env ci) core (rel.map wireOf) → RRel c sub core →
      RRel (Conn.consume env sub rel c).c sub (core.consume (wrap env ci) (rel.map wireOf)) ∧
      SubWF (Conn.consume env sub rel c).c sub ∧ cipherOf (Conn.consume env sub rel c).c sub = ci := by
  intro rel c core hw hc hgood hwell hr
  refine ⟨?_, ((consume_steps env sub rel c).1.keeps sub).1 hw, ((consume_steps env sub rel c).1.keeps sub).2.trans hc⟩
  induction rel generalizing c core with
  | nil => exact hr
  | cons p ps ih =>
    subst hc
    have hp := hgood p (List.mem_cons_self)
    have hps : ∀ q ∈ ps, q.substreamId = sub ∧ hasReliable q.flags = true := fun q hq => hgood q (List.mem_cons_of_mem _ hq)
    cases he : c.eof with
    | true =>
      -- closed on both sides: nothing more is delivered
      have hcl : core.closed = true := by rw [hr.closed]; exact he
      have h1 := consume_eof env sub (p :: ps) c he
      rw [Chan.consume_closed _ _ _ hcl]
      exact ⟨by rw [hcl, h1.1], by rw [hr.out, h1.2], fun hlive => by rw [h1.1] at hlive; cases hlive⟩
    | false =>
      have hcl : core.closed = false := by rw [hr.closed]; exact he
      have hlive := hr.live he
      simp only [List.map_cons, Core.consume, hcl, Bool.false_eq_true, if_false, Conn.consume]
      simp only [List.map_cons, Core.wellAt, hcl, Bool.false_eq_true, false_or] at hwell
      by_cases ht : p.type = TYPE_DATA
      · have hk : (wireOf p).kind = .data p.fragmentId := by simp [wireOf, kindOf, ht]
        rw [hk, if_pos ht]
        rw [hk] at hwell
        obtain ⟨data, c1, hdp, hdata, h_eof, h_q, h_fb, hw1, hc1, hpos1⟩ :=
          decode_step env hround sub c core p hw hp.1 hp.2 ht hlive.2 hwell.1
        rw [hdp]
        simp only []
        have hwire : (wireOf p).cipher = p.payload := rfl
        have he1 : c1.eof = false := by rw [h_eof]; exact he
        have hw2 := hwell.2
        rw [hwire, ← hdata] at hw2 ⊢
        have ab := fun c' hc' => rrel_absorb (c' := c') (sub := sub) (core := core) p.fragmentId data (core.decPos + p.payload.length)
          hw1 he1 (by rw [h_q]; exact hr.out) (by rw [h_fb]; exact hlive.1) hpos1 hc'
        by_cases hf : p.fragmentId = 0
        · rw [if_pos hf, if_neg (by rw [he1]; exact Bool.false_ne_true)]
          obtain ⟨h1, h2, h3⟩ := ab _ (if_pos hf).symm
          exact ih _ _ h2 (h3.trans hc1) hps hw2 h1
        · rw [if_neg hf]
          obtain ⟨h1, h2, h3⟩ := ab _ (if_neg hf).symm
          exact ih _ _ h2 (h3.trans hc1) hps hw2 h1
      · rw [if_neg ht]
        by_cases hd : p.type = TYPE_DISCONNECT
        · -- DISCONNECT: `cleanup()`; the L2 core is closed
          have hk : (wireOf p).kind = .disconnect := by simp [wireOf, kindOf, hd]; decide
          rw [hk, if_pos hd]
          simp only [R.bind, cleanup_no_error]
          have h1 := consume_eof env sub ps c.cleanup.c rfl
          exact ⟨by show true = _; rw [h1.1], by show core.reasm.out = _; rw [hr.out, h1.2]; rfl, fun hl => by rw [h1.1] at hl; cases hl⟩
        · have hk : (wireOf p).kind = .ping := by simp [wireOf, kindOf, ht, hd]
          rw [hk, if_neg hd]
          rw [hk] at hwell
          exact ih c core hw rfl hps hwell hr

theorem consume_windows (env : Env) (sub : Nat) (rel : List Packet) (c : Conn) : (Conn.consume env sub rel c).c.windows = c.windows :=
  (consume_invariant env sub (fun c' => c'.windows = c.windows) rel
    (fun c0 p d c1 _ h hd => by rcases decodePayload_conn env c0 c1 p d hd with rfl | ⟨_, _, rfl⟩ <;> exact h)
    (fun _ _ h => h) (fun _ _ _ h _ => h) (fun _ h => h) c rfl).1

/-- the packets a substream's window holds: of that substream, reliable -/
def GoodWin (sub : Nat) (w : Window Packet) : Prop := ∀ kq ∈ w.packets, kq.2.substreamId = sub ∧ hasReliable kq.2.flags = true

theorem update_good {sub : Nat} {w : Window Packet} {p : Packet} (hgw : GoodWin sub w)
    (hp : p.substreamId = sub ∧ hasReliable p.flags = true) :
    (∀ q ∈ (w.update p.packetId p).2, q.substreamId = sub ∧ hasReliable q.flags = true) ∧ GoodWin sub (w.update p.packetId p).1 :=
  update_all (fun q : Packet => q.substreamId = sub ∧ hasReliable q.flags = true) w _ p hgw hp

/-- **`process_reliable` refines `Receiver.arrive`**: with the window projected by `wireOf` and the application side related by
    `RRel`, handing a reliable packet of substream `sub` to a live L1 connection is the L2 receiver step on the projected packet -/
theorem processReliable_refines (env : Env) (sub : Nat) (c : Conn) (w : Window Packet)
    (core : Core) (nrel : Nat) (p : Packet) (hw : SubWF c sub) (hwl : sub < c.windows.length) (hwin : c.windows[sub]? = some w)
    (hgw : GoodWin sub w) (hp : p.substreamId = sub ∧ hasReliable p.flags = true) (hr : RRel c sub core) (hlive : c.eof = false)
    (hround : ∀ b, env.decompress (env.compress b) = .ok b)
    (hwell : Core.wellAt (wrap env (cipherOf c sub)) core ((w.update p.packetId p).2.map wireOf)) :
    ∃ w', (c.processReliable env p).c.windows[sub]? = some w' ∧ GoodWin sub w' ∧
      Receiver.arrive (wrap env (cipherOf c sub)) ⟨w.map wireOf, nrel, core⟩ (wireOf p) =
        ⟨w'.map wireOf, nrel + (w.update p.packetId p).2.length, (Receiver.arrive (wrap env (cipherOf c sub)) ⟨w.map wireOf, nrel, core⟩ (wireOf p)).core⟩ ∧
      RRel (c.processReliable env p).c sub (Receiver.arrive (wrap env (cipherOf c sub)) ⟨w.map wireOf, nrel, core⟩ (wireOf p)).core ∧
      SubWF (c.processReliable env p).c sub ∧ cipherOf (c.processReliable env p).c sub = cipherOf c sub := by
  have hcl : core.closed = false := by rw [hr.closed]; exact hlive
  obtain ⟨hrel, hgw'⟩ := update_good hgw hp
  have e := Receiver.arrive_open (wrap env (cipherOf c sub)) ⟨w.map wireOf, nrel, core⟩ (wireOf p) hcl
    (update_map wireOf w p.packetId p)
  dsimp only at e
  have h0 := consume_refines env hround sub (cipherOf c sub) (w.update p.packetId p).2
    { c with windows := setAt c.windows sub (w.update p.packetId p).1 } core hw rfl hrel hwell ⟨hr.closed, hr.out, hr.live⟩
  rw [processReliable_eq env c p (hp.1 ▸ hwin) rfl, hp.1, e.2.2]
  refine ⟨_, ?_, hgw', ?_, h0⟩
  · rw [consume_windows]; exact get_set_self _ _ _ hwl
  · rw [← e.1, ← List.length_map (f := wireOf), ← e.2.1, ← e.2.2]

/-- without compression (or whenever `decompress` cannot fail) decoding a reliable packet of a well-formed substream raises nothing -/
theorem decodePayload_ok_of_id (env : Env) (hdec : ∀ b, ∃ x, env.decompress b = .ok x) (sub : Nat) (c : Conn) (p : Packet)
    (hw : SubWF c sub) (hsub : p.substreamId = sub) (hrel : hasReliable p.flags = true) : ∃ v, c.decodePayload env p = .ok v := by
  subst hsub
  obtain ⟨sc, hsc⟩ := hw.cipher
  rw [decodePayload_reliable env c p sc hrel hsc]
  by_cases h1 : p.type = TYPE_DATA ∧ (!p.payload.isEmpty) = true
  · obtain ⟨x, hx⟩ := hdec ((cipherOf c p.substreamId).dec sc.decPos p.payload)
    rw [if_pos h1, hx]; exact ⟨_, rfl⟩
  · rw [if_neg h1]; exact ⟨_, rfl⟩

/-- … and then the only exception the release loop can raise is the closed-resource one (a completed message behind a released
    DISCONNECT) -/
theorem consume_closedOnly_of_id (env : Env) (hdec : ∀ b, ∃ x, env.decompress b = .ok x) (sub : Nat) (rel : List Packet) (c : Conn)
    (hw : SubWF c sub) (hgood : ∀ q ∈ rel, q.substreamId = sub ∧ hasReliable q.flags = true) (e : Err)
    (h : (Conn.consume env sub rel c).err = some e) : e = .closed := by
  rcases (consume_steps env sub rel c).2 e h with h | ⟨x, p, hx, hp, hd⟩
  · exact h
  · obtain ⟨v, hv⟩ := decodePayload_ok_of_id env hdec sub x p ((hx.keeps sub).1 hw) (hgood p hp).1 (hgood p hp).2
    rw [hv] at hd; cases hd

theorem processReliable_closedOnly_of_id (env : Env) (hdec : ∀ b, ∃ x, env.decompress b = .ok x) (sub : Nat) (c : Conn)
    (w : Window Packet) (p : Packet) (hw : SubWF c sub) (hwin : c.windows[sub]? = some w) (hgw : GoodWin sub w)
    (hp : p.substreamId = sub ∧ hasReliable p.flags = true) :
    ∀ e, (c.processReliable env p).err = some e → e = .closed := by
  rw [processReliable_eq env c p (hp.1 ▸ hwin) rfl, hp.1]
  exact consume_closedOnly_of_id env hdec sub _ _ hw (update_good hgw hp).1
end Nx.L1
