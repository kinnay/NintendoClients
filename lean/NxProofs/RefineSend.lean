import NxProofs.Refine
/-! C01: the send path of the L1 endpoint refines the L2 sender — `send(data, substream)` emits, fragment by fragment, the
wires `wiresOf (cipher) (next id) (encryption position) (split size data)`; an exception or a dead link can only cut the
emission short (a prefix), never alter it. -/
namespace Nx.L1
open Nx.Prudp Nx.Chan

/-- the packets handed to the transport by a step -/
def emitted (r : R) : List Packet := r.outs.filterMap (fun o => match o with | .emit _ p _ => some p | _ => none)

/-- the sender-side state of substream `sub` the L2 sender tracks: next sequence id and encryption position -/
structure SRel (c : Conn) (sub : Nat) (nextId encPos : Nat) : Prop where
  ctr : c.counters[sub]? = some nextId
  ciph : ∃ sc, c.relCiphers[sub]? = some sc ∧ (c.cipherOn = true → sc.encPos = encPos)

def dataPacket (sub : Nat) (f : Frag) : Packet :=
  { mkPacket TYPE_DATA (FLAG_RELIABLE + FLAG_NEED_ACK + FLAG_HAS_SIZE) with fragmentId := f.fragId, substreamId := sub, payload := f.data }

theorem cleanup_emits_nothing (c : Conn) : emitted c.cleanup = [] := by
  unfold emitted Conn.cleanup R.ok
  cases c.eof <;> cases c.waitingHandshake <;> rfl

theorem transmit_emit (env : Env) (now : Time) (c : Conn) (p : Packet) :
    emitted (c.transmit env now p) = (if c.linkUp = true ∧ (c.transmit env now p).err = none then [p] else []) ∧
    (c.transmit env now p).c.counters = c.counters ∧ (c.transmit env now p).c.relCiphers = c.relCiphers ∧
    (c.transmit env now p).c.cipherOn = c.cipherOn := by
  unfold Conn.transmit
  cases c.linkUp with
  | false => exact ⟨cleanup_emits_nothing c, rfl, rfl, rfl⟩
  | true =>
    simp only [Bool.not_true, Bool.false_eq_true, if_false, true_and]
    cases encodeChecked env.cfg p with
    | error e => exact ⟨rfl, rfl, rfl, rfl⟩
    | ok data =>
      refine ⟨rfl, ?_, ?_, ?_⟩ <;>
      · simp only []
        split
        · unfold Conn.arm; cases c.sched <;> rfl
        · rfl

theorem eq_of_mem_emitted_transmit {env : Env} {now : Time} {c : Conn} {p q : Packet} (h : q ∈ emitted (c.transmit env now p)) :
    q = p := by
  rw [(transmit_emit env now c p).1] at h
  split at h
  · exact List.mem_singleton.mp h
  · cases h

/-- what `send` and the keep-alive timer put on the wire: not a handshake packet, not an acknowledgement, RELIABLE + NEED_ACK -/
structure Ordinary (p : Packet) : Prop where
  nsyn : p.type ≠ TYPE_SYN
  ncon : p.type ≠ TYPE_CONNECT
  nack : hasAck p.flags = false
  nmulti : hasMultiAck p.flags = false
  need : hasNeedAck p.flags = true
  rel : hasReliable p.flags = true

theorem ordinary_of_fields (q p : Packet) (h : q.flags = p.flags ∧ q.type = p.type) (hp : Ordinary p) : Ordinary q := by
  obtain ⟨h1, h2⟩ := h
  exact ⟨by rw [h2]; exact hp.nsyn, by rw [h2]; exact hp.ncon, by rw [h1]; exact hp.nack, by rw [h1]; exact hp.nmulti,
    by rw [h1]; exact hp.need, by rw [h1]; exact hp.rel⟩

theorem dataPacket_ordinary (sub : Nat) (f : Frag) : Ordinary (dataPacket sub f) :=
  ordinary_of_fields _ ({ type := TYPE_DATA, flags := FLAG_RELIABLE + FLAG_NEED_ACK + FLAG_HAS_SIZE } : Packet) ⟨rfl, rfl⟩
    ⟨by decide, by decide, by decide, by decide, by decide, by decide⟩

theorem ctl_ordinary {ty : Nat} (hns : ty ≠ TYPE_SYN) (hnc : ty ≠ TYPE_CONNECT) : Ordinary (mkPacket ty (FLAG_RELIABLE + FLAG_NEED_ACK)) :=
  ⟨hns, hnc, (by decide : hasAck (FLAG_RELIABLE + FLAG_NEED_ACK) = false), (by decide : hasMultiAck (FLAG_RELIABLE + FLAG_NEED_ACK) = false),
   (by decide : hasNeedAck (FLAG_RELIABLE + FLAG_NEED_ACK) = true), (by decide : hasReliable (FLAG_RELIABLE + FLAG_NEED_ACK) = true)⟩

/-- `send_packet` of an ordinary packet (DATA, or with nothing to encode), decomposed. Substream, payload, kind and encoded payload
    are arguments of their own so that for a packet written out in the model they are what the channel calls them. -/
theorem sendPacket_reliable_eq (env : Env) (now : Time) (c : Conn) (p : Packet) (ho : Ordinary p) (hd : p.type = TYPE_DATA ∨ p.payload = [])
    {sub : Nat} (hsub : p.substreamId = sub) {d : Bytes} (hpay : p.payload = d) {k : Kind} (hk : kindOf p = k)
    (n pos : Nat) (hs : SRel c sub n pos) {ct : Bytes} (hct : (if d.isEmpty then d else (wrap env (cipherOf c sub)).enc pos d) = ct) :
    ∃ (q : Packet) (c2 : Conn), c.sendPacket env now p = c2.transmit env now q ∧ wireOf q = ⟨n, k, ct⟩ ∧
      SRel c2 sub (seqNext n) (pos + ct.length) ∧ (q.substreamId = sub ∧ q.flags = p.flags ∧ q.type = p.type) ∧
      cipherOf c2 sub = cipherOf c sub ∧ c2.linkUp = c.linkUp ∧ c2.fragmentSize = c.fragmentSize ∧ c2.state = c.state := by
  subst hsub hpay hk hct
  obtain ⟨hctr, sc, hsc, hpos⟩ := hs
  have hlt : p.substreamId < c.counters.length := (List.getElem?_eq_some_iff.mp hctr).1
  have hlt2 : p.substreamId < c.relCiphers.length := (List.getElem?_eq_some_iff.mp hsc).1
  have hna : (hasAck p.flags || hasMultiAck p.flags) = false := by rw [ho.nack, ho.nmulti]; rfl
  simp only [Conn.sendPacket, hna, Conn.assignIf, Bool.false_eq_true, if_false, Conn.assign, ho.rel, if_true, hctr,
    ho.nsyn, ne_eq, not_false_eq_true, Conn.encodeIf, Bool.not_false, and_true, Conn.encodePayload]
  by_cases hemp : p.payload.isEmpty = true
  · have hlen : p.payload.length = 0 := by simpa using hemp
    simp only [hemp, Bool.not_true, Bool.false_eq_true, and_false, if_false, if_true, ite_self]
    exact ⟨_, _, rfl, rfl, ⟨get_set_self _ _ _ hlt, sc, hsc, fun h => by rw [hlen]; exact hpos h⟩, ⟨rfl, rfl, rfl⟩, rfl, rfl, rfl, rfl⟩
  · have hdata : p.type = TYPE_DATA := hd.resolve_right (fun h => hemp (by rw [h]; rfl))
    simp only [hdata, hemp, Bool.not_false, and_self, if_true, Bool.false_eq_true, if_false, hsc]
    cases hon : c.cipherOn with
    | true =>
      have hp := hpos hon
      refine ⟨_, _, rfl, ?_, ⟨get_set_self _ _ _ hlt, _, get_set_self _ _ _ hlt2, fun _ => ?_⟩, ⟨rfl, rfl, rfl⟩, ?_, rfl, rfl, rfl⟩
      · simp [wireOf, kindOf, wrap, cipherOf_on hsc hon, hp, hdata]
      · simp only [wrap, cipherOf_on hsc hon]
        rw [rc4At_length, hp]
      · exact cipherOf_congr hon.symm (by rw [get_set_self _ _ _ hlt2, hsc]; rfl)
    | false =>
      refine ⟨_, _, rfl, ?_, ⟨get_set_self _ _ _ hlt, sc, hsc, fun h => by cases h⟩, ⟨rfl, rfl, rfl⟩, cipherOf_congr hon.symm rfl, rfl, rfl, rfl⟩
      simp [wireOf, kindOf, wrap, cipherOf_off _ hon, hdata]

theorem emitted_bind_ok (r : R) (f : Conn → R) (h : r.err = none) : emitted (r.bind f) = emitted r ++ emitted (f r.c) := by
  unfold R.bind emitted; rw [h]; exact List.filterMap_append

theorem srel_transmit (env : Env) (now : Time) (c : Conn) (q : Packet) (sub n pos : Nat) (h : SRel c sub n pos) :
    SRel (c.transmit env now q).c sub n pos := by
  obtain ⟨-, h1, h2, h3⟩ := transmit_emit env now c q
  exact ⟨by rw [h1]; exact h.ctr, by rw [h2, h3]; exact h.ciph⟩

theorem sendPacket_emitted (env : Env) (now : Time) (c : Conn) (p : Packet) :
    (∀ q ∈ emitted (c.sendPacket env now p), q.substreamId = p.substreamId ∧ q.flags = p.flags ∧ q.type = p.type) ∧
    (c.linkUp = false → emitted (c.sendPacket env now p) = []) := by
  rcases sendPacket_cases env now c p with ⟨_, ho, _⟩ | ⟨c2, q, hst, ht, hf, hs, heq⟩
  · rw [emitted, ho]; exact ⟨nofun, fun _ => rfl⟩
  · rw [heq]
    exact ⟨fun x hx => by rw [eq_of_mem_emitted_transmit hx]; exact ⟨hs, hf, ht⟩,
      fun hl => by rw [(transmit_emit env now c2 q).1, if_neg fun h => Bool.noConfusion ((hst.fixed.link.trans hl).symm.trans h.1)]⟩

/-- The operation that took the endpoint `c` to `r` acts as the L2 sender of substream `sub`. What it handed to the transport are
    ordinary packets of `sub`, none if the link was down, and no handshake field is written. If the sender role stood at id `n` and
    encryption position `pos`, they travel as a prefix of the wires `ws` — as all of `ws`, leaving the role at `n'` and `pos'`, when the
    operation ran to its end on a live link: an exception or a dead link cuts the emission short and alters nothing. -/
structure Emits (sub : Nat) (c : Conn) (r : R) (n pos : Nat) (ws : List Wire) (n' pos' : Nat) : Prop where
  good : ∀ q ∈ emitted r, q.substreamId = sub ∧ Ordinary q
  steps : Steps (· ≠ .phase) c r.c
  down : c.linkUp = false → emitted r = []
  ref : SRel c sub n pos → (emitted r).map wireOf <+: ws ∧
    (r.err = none → r.c.linkUp = true → (emitted r).map wireOf = ws ∧ SRel r.c sub n' pos')

theorem Emits.ok {sub : Nat} {c : Conn} {n pos : Nat} : Emits sub c (R.ok c) n pos [] n pos :=
  ⟨nofun, .refl _, fun _ => rfl, fun hs => ⟨List.nil_prefix, fun _ _ => ⟨rfl, hs⟩⟩⟩

theorem Emits.fail {sub : Nat} {c : Conn} {e : Err} {n pos n' pos' : Nat} {ws : List Wire} : Emits sub c (R.fail c e) n pos ws n' pos' :=
  ⟨nofun, .refl _, fun _ => rfl, fun _ => ⟨List.nil_prefix, nofun⟩⟩

/-- one operation after the other: the wires of the second follow those of the first, provided the first ran to its end on a live
    link — otherwise the second does not run, or finds the link down and emits nothing -/
theorem Emits.bind {sub : Nat} {c : Conn} {r : R} {f : Conn → R} {n pos n1 pos1 n2 pos2 : Nat} {ws ws' : List Wire}
    (h1 : Emits sub c r n pos ws n1 pos1) (h2 : Emits sub r.c (f r.c) n1 pos1 ws' n2 pos2) :
    Emits sub c (r.bind f) n pos (ws ++ ws') n2 pos2 := by
  cases he : r.err with
  | some e =>
    rw [R.bind_err f he]
    exact ⟨h1.good, h1.steps, h1.down, fun hs => ⟨(h1.ref hs).1.trans (List.prefix_append _ _), fun h => by rw [he] at h; cases h⟩⟩
  | none =>
    obtain ⟨herr, hc⟩ := R.bind_ok r f he
    have hem := emitted_bind_ok r f he
    refine ⟨by rw [hem]; exact List.forall_mem_append.mpr ⟨h1.good, h2.good⟩, by rw [hc]; exact h1.steps.trans h2.steps,
      fun hl => by rw [hem, h1.down hl, h2.down (h1.steps.fixed.link.trans hl)]; rfl, fun hs => ?_⟩
    obtain ⟨p1, f1⟩ := h1.ref hs
    rw [hem, hc, herr, List.map_append]
    by_cases hl : r.c.linkUp = true
    · obtain ⟨e1, s1⟩ := f1 he hl
      obtain ⟨p2, f2⟩ := h2.ref s1
      rw [e1]
      exact ⟨(List.prefix_append_right_inj _).mpr p2, fun he' hl' => ⟨by rw [(f2 he' hl').1], (f2 he' hl').2⟩⟩
    · rw [h2.down (Bool.eq_false_iff.mpr hl), List.map_nil, List.append_nil]
      exact ⟨p1.trans (List.prefix_append _ _), fun _ hl' => absurd (h2.steps.fixed.link ▸ hl') hl⟩

theorem sendPacket_emits (env : Env) (now : Time) (c : Conn) (p : Packet) (ho : Ordinary p) (hd : p.type = TYPE_DATA ∨ p.payload = [])
    {sub : Nat} (hsub : p.substreamId = sub) {d : Bytes} (hpay : p.payload = d) {k : Kind} (hk : kindOf p = k)
    (n pos : Nat) {ct : Bytes} (hct : (if d.isEmpty then d else (wrap env (cipherOf c sub)).enc pos d) = ct) :
    Emits sub c (c.sendPacket env now p) n pos [⟨n, k, ct⟩] (seqNext n) (pos + ct.length) := by
  have hem := sendPacket_emitted env now c p
  refine ⟨fun x hx => ⟨(hem.1 x hx).1.trans hsub, ordinary_of_fields x p (hem.1 x hx).2 ho⟩,
    (sendPacket_steps env now c p hsub).mono fun _ h => h.ne.2, hem.2, fun hs => ?_⟩
  obtain ⟨q, c2, heq, hwire, hs2, -⟩ := sendPacket_reliable_eq env now c p ho hd hsub hpay hk n pos hs hct
  rw [heq, (transmit_emit env now c2 q).1]
  by_cases hc : c2.linkUp = true ∧ (c2.transmit env now q).err = none
  · rw [if_pos hc, List.map_singleton, hwire]
    exact ⟨List.prefix_rfl, fun _ _ => ⟨rfl, srel_transmit env now c2 q _ _ _ hs2⟩⟩
  · rw [if_neg hc]
    exact ⟨List.nil_prefix, fun he hl => absurd ⟨(transmit_steps env now c2 q).fixed.link ▸ hl, he⟩ hc⟩

theorem sendFrag_emits (env : Env) (now : Time) (c : Conn) (sub : Nat) (f : Frag) (n pos : Nat) :
    Emits sub c (c.sendPacket env now (dataPacket sub f)) n pos
      [⟨n, .data f.fragId, if f.data.isEmpty then f.data else (wrap env (cipherOf c sub)).enc pos f.data⟩] (seqNext n)
      (pos + (if f.data.isEmpty then f.data else (wrap env (cipherOf c sub)).enc pos f.data).length) :=
  sendPacket_emits env now c _ (dataPacket_ordinary sub f) (Or.inl rfl) rfl rfl rfl n pos rfl

/-- a PING or DISCONNECT: numbered from substream 0's counter, nothing to encode -/
theorem sendCtl_emits (env : Env) (now : Time) (c : Conn) (ty : Nat) (hns : ty ≠ TYPE_SYN) (hnc : ty ≠ TYPE_CONNECT) (n pos : Nat) :
    Emits 0 c (c.sendPacket env now (mkPacket ty (FLAG_RELIABLE + FLAG_NEED_ACK))) n pos
      [⟨n, kindOf (mkPacket ty (FLAG_RELIABLE + FLAG_NEED_ACK)), []⟩] (seqNext n) pos :=
  sendPacket_emits env now c _ (ctl_ordinary hns hnc) (Or.inr rfl) rfl rfl rfl n pos rfl

theorem sendFrags_cons (env : Env) (now : Time) (sub : Nat) (f : Frag) (fs : List Frag) (c : Conn) :
    Conn.sendFrags env now sub (f :: fs) c = (c.sendPacket env now (dataPacket sub f)).bind (Conn.sendFrags env now sub fs) := rfl

/-- **the fragment loop of `send` refines the L2 sender**: fragment by fragment it emits `wiresOf cipher nextId encPos frags` -/
theorem sendFrags_emits (env : Env) (now : Time) (sub : Nat) : ∀ (fs : List Frag) (c : Conn) (n pos : Nat),
    Emits sub c (Conn.sendFrags env now sub fs c) n pos (wiresOf (wrap env (cipherOf c sub)) n pos fs) (iterSeq fs.length n)
      (pos + wiresLen (wiresOf (wrap env (cipherOf c sub)) n pos fs)) := by
  intro fs
  induction fs with
  | nil => exact fun c n pos => .ok
  | cons f fs ih =>
    intro c n pos
    have h1 := sendFrag_emits env now c sub f n pos
    have h := h1.bind (ih _ _ _)
    rw [(h1.steps.keeps sub).2, Nat.add_assoc] at h
    exact h

theorem send_emits (env : Env) (now : Time) (c : Conn) (data : Bytes) (sub n pos : Nat) :
    Emits sub c (c.send env now data sub) n pos (wiresOf (wrap env (cipherOf c sub)) n pos (split c.fragmentSize data))
      (iterSeq (split c.fragmentSize data).length n) (pos + wiresLen (wiresOf (wrap env (cipherOf c sub)) n pos (split c.fragmentSize data))) := by
  unfold Conn.send
  split
  · exact .fail
  · split
    · exact .fail
    · exact sendFrags_emits env now sub _ c n pos

/-- **`send(data, substream)` refines `Sender.send`**: the emitted packets project to (a prefix of) exactly the wires the L2 sender
    appends to its log for this message — same ids, same fragment ids, same ciphertext at the same cipher positions -/
theorem send_refines (env : Env) (now : Time) (c : Conn) (data : Bytes) (sub n pos : Nat)
    (hs : SRel c sub n pos) :
    (emitted (c.send env now data sub)).map wireOf <+: wiresOf (wrap env (cipherOf c sub)) n pos (split c.fragmentSize data) ∧
    ((c.send env now data sub).err = none → (c.send env now data sub).c.linkUp = true →
      (emitted (c.send env now data sub)).map wireOf = wiresOf (wrap env (cipherOf c sub)) n pos (split c.fragmentSize data) ∧
      SRel (c.send env now data sub).c sub (iterSeq (split c.fragmentSize data).length n)
        (pos + wiresLen (wiresOf (wrap env (cipherOf c sub)) n pos (split c.fragmentSize data)))) :=
  (send_emits env now c data sub n pos).ref hs

end Nx.L1
