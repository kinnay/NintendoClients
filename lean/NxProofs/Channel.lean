import NxProofs.Window
import NxProofs.Frag
/-! the L2 channel: receiver state is a function of the released prefix of the sender's log; safety and completeness -/
namespace Nx.Chan

/-- what the theorems need from the payload transformation (RC4 after optional compression):
    decoding at the position where a fragment was encoded returns it, and a non-empty fragment never
    encodes to the empty string (the code skips decoding of empty payloads) -/
structure CipherOk (c : Cipher) : Prop where
  dec_enc : ∀ p x, c.dec p (c.enc p x) = x
  enc_ne : ∀ p x, x ≠ [] → c.enc p x ≠ []

theorem consume_closed (c : Cipher) (r : Core) (l : List Wire) (h : r.closed = true) : Core.consume c r l = r := by
  cases l with
  | nil => rfl
  | cons w ws => simp [Core.consume, h]

theorem consume_append (c : Cipher) (a b : List Wire) (r : Core) :
    Core.consume c r (a ++ b) = Core.consume c (Core.consume c r a) b := by
  fun_induction Core.consume c r a with
  | case1 r => rfl
  | case2 r w ws h => rw [consume_closed c r _ h, consume_closed c r _ h]
  | case3 r w ws h fid hk pt ih => rw [← ih, List.cons_append, Core.consume, if_neg h, hk]
  | case4 r w ws h hk ih => rw [← ih, List.cons_append, Core.consume, if_neg h, hk]
  | case5 r w ws h hk => rw [consume_closed c _ b rfl, List.cons_append, Core.consume, if_neg h, hk]

theorem out_prefix (c : Cipher) (l : List Wire) (r : Core) : r.reasm.out <+: (Core.consume c r l).reasm.out := by
  fun_induction Core.consume c r l with
  | case1 | case2 | case5 => exact List.prefix_refl _
  | case3 r w ws h fid hk pt ih =>
    refine List.IsPrefix.trans ?_ ih
    simp only [Reasm.absorb]
    split
    · exact List.prefix_append _ _
    · exact List.prefix_refl _
  | case4 r w ws h hk ih => exact ih

theorem consume_wiresOf (c : Cipher) (hc : CipherOk c) :
    ∀ (fs : List Frag) (id pos : Nat) (re : Reasm), (∀ f ∈ fs, f.data ≠ []) →
      Core.consume c ⟨pos, re, false⟩ (wiresOf c id pos fs) =
        ⟨pos + wiresLen (wiresOf c id pos fs), absorbFrags re fs, false⟩ := by
  intro fs
  induction fs with
  | nil => intro id pos re _; simp [wiresOf, wiresLen, Core.consume, absorbFrags]
  | cons f fs ih =>
    intro id pos re hne
    have hf : f.data ≠ [] := hne f (List.mem_cons_self)
    have hfe : f.data.isEmpty = false := List.isEmpty_eq_false_iff.mpr hf
    have hce : (c.enc pos f.data).isEmpty = false := List.isEmpty_eq_false_iff.mpr (hc.enc_ne pos _ hf)
    simp only [wiresOf, hfe, Bool.false_eq_true, if_false, Core.consume, hce, hc.dec_enc, wiresLen]
    rw [ih _ _ _ (fun g hg => hne g (List.mem_cons_of_mem _ hg))]
    simp [absorbFrags, Nat.add_assoc]

theorem wiresOf_length (c : Cipher) : ∀ (fs : List Frag) (id pos : Nat), (wiresOf c id pos fs).length = fs.length := by
  intro fs; induction fs with
  | nil => intro _ _; rfl
  | cons f fs ih => intro id pos; simp [wiresOf, ih]

/-- `Core.consume` never looks at sequence ids -/
theorem consume_wiresOf_id (c : Cipher) : ∀ (fs : List Frag) (id id' pos : Nat) (r : Core),
    Core.consume c r (wiresOf c id pos fs) = Core.consume c r (wiresOf c id' pos fs) := by
  intro fs
  induction fs with
  | nil => intro _ _ _ _; rfl
  | cons f fs ih =>
    intro id id' pos r
    by_cases hcl : r.closed = true
    · rw [consume_closed c r _ hcl, consume_closed c r _ hcl]
    · simp only [wiresOf, Core.consume, hcl, Bool.false_eq_true, if_false]
      exact ih _ _ _ _

theorem wiresLen_wiresOf_id (c : Cipher) : ∀ (fs : List Frag) (id id' pos : Nat),
    wiresLen (wiresOf c id pos fs) = wiresLen (wiresOf c id' pos fs) := by
  intro fs
  induction fs with
  | nil => intro _ _ _; rfl
  | cons f fs ih => intro id id' pos; simp only [wiresOf, wiresLen]; rw [ih]

theorem Sender.send_open (c : Cipher) (size : Nat) (s : Sender) (m : Bytes) (hcl : s.closing = false) (hp : s.pending = []) :
    s.send c size m =
      { s with nextId := iterSeq (split size m).length s.nextId,
               encPos := s.encPos + wiresLen (wiresOf c s.nextId s.encPos (split size m)),
               log := s.log ++ wiresOf c s.nextId s.encPos (split size m),
               sent := if m.isEmpty then s.sent else s.sent ++ [m] } := by
  simp [Sender.send, hcl, hp, wiresOf_length]

theorem Sender.begin_open (size : Nat) (s : Sender) (m : Bytes) (hcl : s.closing = false) (hp : s.pending = []) :
    s.begin size m = { s with pending := split size m, sent := if m.isEmpty then s.sent else s.sent ++ [m] } := by
  simp [Sender.begin, hcl, hp]

theorem Sender.frag_nil (c : Cipher) (s : Sender) (hp : s.pending = []) : s.frag c = s := by simp [Sender.frag, hp]

theorem Sender.frag_cons (c : Cipher) (s : Sender) {f : Frag} {fs : List Frag} (hp : s.pending = f :: fs) :
    s.frag c =
      { s with nextId := seqNext s.nextId,
               encPos := s.encPos + (if f.data.isEmpty then f.data else c.enc s.encPos f.data).length,
               log := s.log ++ [⟨s.nextId, .data f.fragId, if f.data.isEmpty then f.data else c.enc s.encPos f.data⟩],
               pending := fs } := by
  simp [Sender.frag, hp]

theorem Sender.disconnect_open (s : Sender) (hcl : s.closing = false) :
    s.disconnect = { s with nextId := seqNext s.nextId, log := s.log ++ [⟨s.nextId, .disconnect, []⟩], closing := true,
                            clean := s.pending.isEmpty } := by
  simp [Sender.disconnect, hcl]

/-- invariant of the sender: ids follow the log index; while the connection is open, processing the whole log and then the
    fragments still to be emitted yields exactly `sent` (no partial message, cipher positions equal); after `disconnect()`
    the log closes the receiver and yields a prefix of `sent` — all of it if no `send` was in progress -/
structure SndInv (c : Cipher) (start : Nat) (s : Sender) : Prop where
  ids : ∀ j (h : j < s.log.length), (s.log[j]).id = idOf start j
  next : s.nextId = idOf start s.log.length
  frs : ∀ f ∈ s.pending, f.data ≠ []
  live : s.closing = false → Core.consume c core0 (s.log ++ wiresOf c s.nextId s.encPos s.pending) =
    ⟨s.encPos + wiresLen (wiresOf c s.nextId s.encPos s.pending), ⟨[], s.sent⟩, false⟩
  dead : s.closing = true → (Core.consume c core0 s.log).closed = true ∧
    (Core.consume c core0 s.log).reasm.out <+: s.sent ∧
    (s.clean = true → s.pending = [] ∧ Core.consume c core0 s.log = ⟨s.encPos, ⟨[], s.sent⟩, true⟩)

theorem sndInv_log_open {c : Cipher} {start : Nat} {s : Sender} (h : SndInv c start s) (hcl : s.closing = false) :
    (Core.consume c core0 s.log).closed = false := by
  have hl := h.live hcl
  rw [consume_append] at hl
  cases hc : (Core.consume c core0 s.log).closed with
  | false => rfl
  | true =>
    rw [consume_closed c _ _ hc] at hl
    rw [hl] at hc; cases hc

theorem sndInv_out {c : Cipher} {start : Nat} {s : Sender} (h : SndInv c start s) :
    (Core.consume c core0 s.log).reasm.out <+: s.sent := by
  cases hcl : s.closing with
  | true => exact (h.dead hcl).2.1
  | false =>
    have hl := h.live hcl
    rw [consume_append] at hl
    have := out_prefix c (wiresOf c s.nextId s.encPos s.pending) (Core.consume c core0 s.log)
    rw [hl] at this
    exact this

theorem sndInv_cons {c : Cipher} {start : Nat} {s : Sender} (h : SndInv c start s) (hp : s.pending = [])
    (hcl : s.closing = false ∨ s.clean = true) :
    Core.consume c core0 s.log = ⟨s.encPos, ⟨[], s.sent⟩, s.closing⟩ := by
  cases hc : s.closing with
  | false =>
    have hl := h.live hc
    rw [hp] at hl
    simpa [wiresOf, wiresLen] using hl
  | true =>
    rcases hcl with h1 | h1
    · rw [hc] at h1; cases h1
    · exact ((h.dead hc).2.2 h1).2

theorem consume_ping (c : Cipher) (r : Core) (id : Nat) : Core.consume c r [⟨id, .ping, []⟩] = r := by
  by_cases hcl : r.closed = true
  · exact consume_closed c r _ hcl
  · simp [Core.consume, hcl]

/-- `n` turns of the fragment loop -/
def fragN (c : Cipher) : Nat → Sender → Sender
  | 0, s => s
  | n + 1, s => fragN c n (s.frag c)

theorem fragN_all (c : Cipher) : ∀ (fs : List Frag) (s : Sender), s.pending = fs →
    fragN c fs.length s =
      { s with nextId := iterSeq fs.length s.nextId, encPos := s.encPos + wiresLen (wiresOf c s.nextId s.encPos fs),
               log := s.log ++ wiresOf c s.nextId s.encPos fs, pending := [] } := by
  intro fs
  induction fs with
  | nil => intro s hp; cases s; simp_all [fragN, iterSeq, wiresOf, wiresLen]
  | cons f fs ih =>
    intro s hp
    simp only [List.length_cons, fragN]
    rw [Sender.frag_cons c s hp, ih _ rfl]
    simp [iterSeq, wiresOf, wiresLen, Nat.add_assoc]

/-- **the one-step `send` is `begin` followed by one `frag` per fragment** (on an open connection with no other `send` of
    the substream in progress) -/
theorem send_eq_begin_frags (c : Cipher) (size : Nat) (s : Sender) (m : Bytes) (hcl : s.closing = false) (hp : s.pending = []) :
    s.send c size m = fragN c (split size m).length (s.begin size m) := by
  rw [Sender.send_open c size s m hcl hp, Sender.begin_open size s m hcl hp, fragN_all c (split size m) _ rfl, hp]

theorem SndInv.snoc {c : Cipher} {start : Nat} {s : Sender} (h : SndInv c start s) (w : Wire) (hw : w.id = s.nextId) :
    (∀ j (hj : j < (s.log ++ [w]).length), ((s.log ++ [w])[j]).id = idOf start j) ∧
    seqNext s.nextId = idOf start (s.log ++ [w]).length := by
  refine ⟨fun j hj => ?_, by rw [h.next, seqNext_idOf, List.length_append]; rfl⟩
  by_cases hl : j < s.log.length
  · rw [List.getElem_append_left hl]; exact h.ids j hl
  · obtain rfl : j = s.log.length := by rw [List.length_append] at hj; exact Nat.le_antisymm (Nat.le_of_lt_succ hj) (Nat.le_of_not_lt hl)
    simp [hw, h.next]

theorem sndInv_begin (c : Cipher) (hc : CipherOk c) (size : Nat) (hs : 1 ≤ size) (start : Nat) (s : Sender)
    (m : Bytes) (h : SndInv c start s) : SndInv c start (s.begin size m) := by
  by_cases hg : (s.closing || !s.pending.isEmpty) = true
  · simpa [Sender.begin, hg] using h
  · obtain ⟨hcl, hp⟩ := Bool.or_eq_false_iff.mp (eq_false_of_ne_true hg)
    have hp : s.pending = [] := by simpa using hp
    rw [Sender.begin_open size s m hcl hp]
    refine ⟨h.ids, h.next, fun f hf => (split_sizes size hs m f hf).1, fun _ => ?_, fun hc' => by cases hcl.symm.trans hc'⟩
    rw [consume_append, sndInv_cons h hp (Or.inl hcl), hcl,
      consume_wiresOf c hc _ _ _ _ (fun f hf => (split_sizes size hs m f hf).1), split_absorb size hs m]
    by_cases hm : m.isEmpty = true <;> simp [hm]

theorem sndInv_frag (c : Cipher) (start : Nat) (s : Sender) (h : SndInv c start s) : SndInv c start (s.frag c) := by
  cases hp : s.pending with
  | nil => rw [Sender.frag_nil c s hp]; exact h
  | cons f fs =>
    rw [Sender.frag_cons c s hp]
    obtain ⟨hids, hnext⟩ := h.snoc ⟨s.nextId, .data f.fragId, if f.data.isEmpty then f.data else c.enc s.encPos f.data⟩ rfl
    refine ⟨hids, hnext, fun g hg => h.frs g (hp ▸ List.mem_cons_of_mem _ hg), fun hcl => ?_, fun hcl => ?_⟩
    · have hl := h.live hcl
      rw [hp] at hl
      simp only [wiresOf, wiresLen] at hl
      simp only [List.append_assoc, List.cons_append, List.nil_append]
      rw [hl]; simp [Nat.add_assoc]
    · obtain ⟨h1, h2, h3⟩ := h.dead hcl
      rw [consume_append, consume_closed c _ _ h1]
      exact ⟨h1, h2, fun hcn => by cases hp.symm.trans (h3 hcn).1⟩

theorem sndInv_fragN (c : Cipher) (start : Nat) : ∀ (n : Nat) (s : Sender), SndInv c start s → SndInv c start (fragN c n s)
  | 0, _, h => h
  | n + 1, s, h => sndInv_fragN c start n _ (sndInv_frag c start s h)

theorem sndInv_send (c : Cipher) (hc : CipherOk c) (size : Nat) (hs : 1 ≤ size) (start : Nat) (s : Sender)
    (m : Bytes) (h : SndInv c start s) : SndInv c start (s.send c size m) := by
  by_cases hg : (s.closing || !s.pending.isEmpty) = true
  · simpa [Sender.send, hg] using h
  · obtain ⟨hcl, hp⟩ := Bool.or_eq_false_iff.mp (eq_false_of_ne_true hg)
    rw [send_eq_begin_frags c size s m hcl (by simpa using hp)]
    exact sndInv_fragN c start _ _ (sndInv_begin c hc size hs start s m h)

theorem sndInv_ping (c : Cipher) (start : Nat) (s : Sender) (h : SndInv c start s) : SndInv c start s.ping := by
  unfold Sender.ping
  have hcons : Core.consume c core0 (s.log ++ [⟨s.nextId, .ping, []⟩]) = Core.consume c core0 s.log := by
    rw [consume_append, consume_ping]
  obtain ⟨hids, hnext⟩ := h.snoc ⟨s.nextId, .ping, []⟩ rfl
  refine ⟨hids, hnext, h.frs, fun hcl => ?_, fun hcl => ?_⟩
  · rw [consume_append, hcons, consume_wiresOf_id c _ (seqNext s.nextId) s.nextId, ← consume_append, h.live hcl,
      wiresLen_wiresOf_id c _ (seqNext s.nextId) s.nextId]
  · rw [hcons]; exact h.dead hcl

theorem sndInv_disconnect (c : Cipher) (start : Nat) (s : Sender) (h : SndInv c start s) :
    SndInv c start s.disconnect := by
  cases hcl : s.closing with
  | true => simpa [Sender.disconnect, hcl] using h
  | false =>
    rw [Sender.disconnect_open s hcl]
    have hcons : Core.consume c core0 (s.log ++ [⟨s.nextId, .disconnect, []⟩]) =
        { Core.consume c core0 s.log with closed := true } := by
      rw [consume_append]; simp [Core.consume, sndInv_log_open h hcl]
    obtain ⟨hids, hnext⟩ := h.snoc ⟨s.nextId, .disconnect, []⟩ rfl
    refine ⟨hids, hnext, h.frs, (fun hc => nomatch hc), fun _ => ?_⟩
    rw [hcons]
    refine ⟨rfl, sndInv_out h, fun hcn => ?_⟩
    have hp : s.pending = [] := by simpa using hcn
    exact ⟨hp, by rw [sndInv_cons h hp (Or.inl hcl), hcl]⟩

structure RcvInv (c : Cipher) (start : Nat) (ch : Chan) : Prop where
  le : ch.r.nrel ≤ ch.s.log.length
  win : ch.r.core.closed = false → SInv ch.s.log start ch.r.win ch.r.nrel
  core : ch.r.core = Core.consume c core0 (ch.s.log.take ch.r.nrel)

theorem winv_mono {L N : List Wire} {start : Nat} {w : Window Wire} {r : Nat} (h : WInv L start w r) :
    WInv (L ++ N) start w r := by
  refine ⟨by have := h.le; simp; omega, h.next, h.nodup, fun id p hp => ?_⟩
  obtain ⟨j, h1, h2, h3, h4⟩ := h.ents id p hp
  exact ⟨j, h1, h2, by rw [List.getElem?_append_left (List.getElem?_eq_some_iff.mp h3).1]; exact h3, h4⟩

theorem step_log (c : Cipher) (size : Nat) (ch : Chan) (op : Op) : ∃ N, (step c size ch op).s.log = ch.s.log ++ N ∧
    ((∃ fs, N = wiresOf c ch.s.nextId ch.s.encPos fs) ∨ ∃ k, (∀ fid, k ≠ .data fid) ∧ N = [⟨ch.s.nextId, k, []⟩]) := by
  have nil : ∃ N, ch.s.log = ch.s.log ++ N ∧
      ((∃ fs, N = wiresOf c ch.s.nextId ch.s.encPos fs) ∨ ∃ k, (∀ fid, k ≠ .data fid) ∧ N = [⟨ch.s.nextId, k, []⟩]) :=
    ⟨[], (List.append_nil _).symm, Or.inl ⟨[], rfl⟩⟩
  cases op with
  | send m => simp only [step, Sender.send]; split; exact nil; exact ⟨_, rfl, Or.inl ⟨_, rfl⟩⟩
  | «begin» m => simp only [step, Sender.begin]; split <;> exact nil
  | frag => simp only [step, Sender.frag]; split; exact nil; exact ⟨_, rfl, Or.inl ⟨[_], rfl⟩⟩
  | ping => exact ⟨_, rfl, Or.inr ⟨.ping, nofun, rfl⟩⟩
  | disconnect => simp only [step, Sender.disconnect]; split; exact nil; exact ⟨_, rfl, Or.inr ⟨.disconnect, nofun, rfl⟩⟩
  | arrive j => simp only [step]; split <;> exact nil

theorem rcvInv_grow (c : Cipher) (start : Nat) (ch ch' : Chan) (N : List Wire) (hr : ch'.r = ch.r)
    (hlog : ch'.s.log = ch.s.log ++ N) (h : RcvInv c start ch) : RcvInv c start ch' := by
  refine ⟨?_, fun hcl => ?_, ?_⟩
  · rw [hr, hlog]; have := h.le; simp; omega
  · rw [hr] at hcl ⊢
    rw [hlog]
    exact ⟨winv_mono (h.win hcl).1, (h.win hcl).2⟩
  · rw [hr, hlog, List.take_append_of_le_length h.le]
    exact h.core

theorem SndInv.id_eq {c : Cipher} {start : Nat} {s : Sender} (h : SndInv c start s) {j : Nat} {w : Wire}
    (hw : s.log[j]? = some w) : w.id = idOf start j := by
  obtain ⟨hj, rfl⟩ := List.getElem?_eq_some_iff.mp hw
  exact h.ids j hj

theorem Receiver.arrive_closed (c : Cipher) (r : Receiver) (w : Wire) (h : r.core.closed = true) : r.arrive c w = r := by
  simp [Receiver.arrive, h]

/- The result of `update` is a variable here (clients pass `rfl`): with the term itself in its place, checking
   `Receiver.win ⟨(w.update id p).1, _, _⟩ ≡ (w.update id p).1` makes the kernel unfold `update` on variables, and the stuck
   `id + 65536 - next` inside `isDup` costs it millions of steps. Rewrite with these equations; do not `show` through the record. -/
theorem Receiver.arrive_open (c : Cipher) (r : Receiver) (w : Wire) (h : r.core.closed = false)
    {u : Window Wire × List Wire} (hu : r.win.update w.id w = u) :
    (r.arrive c w).win = u.1 ∧ (r.arrive c w).nrel = r.nrel + u.2.length ∧ (r.arrive c w).core = r.core.consume c u.2 := by
  simp [Receiver.arrive, h, hu]

theorem take_append_take_drop {α : Type} (L : List α) {r r' : Nat} (h : r ≤ r') :
    L.take r ++ (L.drop r).take (r' - r) = L.take r' := by
  rw [← List.take_add, Nat.add_sub_cancel' h]

/-- `hok` is `opOk ch (.arrive j)`, the half-window hypothesis of an arrival, unfolded -/
theorem window_of_ok {j n len : Nat} (hok : (decide (j < n + 32768 ∧ n < j + 32768) || decide (len ≤ j)) = true) (hj : j < len) :
    j < n + 32768 ∧ n < j + 32768 := by
  simp only [Bool.or_eq_true, decide_eq_true_eq] at hok
  rcases hok with h | h
  · exact h
  · omega

theorem arrive_spec {c : Cipher} {start : Nat} {ch : Chan} {j : Nat} {w : Wire}
    (hs : SndInv c start ch.s) (h : RcvInv c start ch) (hw : ch.s.log[j]? = some w)
    (h1 : j < ch.r.nrel + 32768) (h2 : ch.r.nrel < j + 32768) (hcl : ch.r.core.closed = false) :
    ∃ r', ch.r.nrel ≤ r' ∧ (ch.r.win.update w.id w).2 = (ch.s.log.drop ch.r.nrel).take (r' - ch.r.nrel) ∧
      (ch.r.arrive c w).nrel = r' ∧ SInv ch.s.log start (ch.r.arrive c w).win r' ∧
      (ch.r.arrive c w).core = Core.consume c core0 (ch.s.log.take r') ∧
      ∀ k, r' ≤ k → k < ch.r.nrel + 32768 → k = j ∨ idOf start k ∈ keys ch.r.win.packets →
        idOf start k ∈ keys (ch.r.arrive c w).win.packets := by
  obtain ⟨ewin, enrel, ecore⟩ := Receiver.arrive_open c ch.r w hcl rfl
  rw [ewin, enrel, ecore, hs.id_eq hw]
  obtain ⟨r', hr', hS, hrel, hK⟩ := update_spec ch.s.log start ch.r.win ch.r.nrel j w (h.win hcl) hw h2 h1
  refine ⟨r', hr', hrel, ?_, hS, ?_, hK⟩
  · have := hS.1.le
    rw [hrel, List.length_take, List.length_drop]; omega
  · rw [hrel, h.core, ← consume_append, take_append_take_drop _ hr']

theorem inv_step (c : Cipher) (hc : CipherOk c) (size : Nat) (hsz : 1 ≤ size) (start : Nat) (ch : Chan) (op : Op)
    (hs : SndInv c start ch.s) (hr : RcvInv c start ch) (hop : opOk ch op = true) :
    SndInv c start (step c size ch op).s ∧ RcvInv c start (step c size ch op) := by
  refine ⟨?_, ?_⟩
  · cases op with
    | send m => exact sndInv_send c hc size hsz start ch.s m hs
    | begin m => exact sndInv_begin c hc size hsz start ch.s m hs
    | frag => exact sndInv_frag c start ch.s hs
    | ping => exact sndInv_ping c start ch.s hs
    | disconnect => exact sndInv_disconnect c start ch.s hs
    | arrive j =>
      simp only [step]
      split <;> exact hs
  · cases op with
    | arrive j =>
      simp only [step]
      cases hw : ch.s.log[j]? with
      | none => exact hr
      | some w =>
        show RcvInv c start { ch with r := ch.r.arrive c w }
        cases hcl : ch.r.core.closed with
        | true => rw [Receiver.arrive_closed c _ w hcl]; exact hr
        | false =>
          have h12 := window_of_ok hop (List.getElem?_eq_some_iff.mp hw).1
          obtain ⟨r', -, -, hn, hS, hcore, -⟩ := arrive_spec hs hr hw h12.1 h12.2 hcl
          exact ⟨hn ▸ hS.1.le, fun _ => hn ▸ hS, hn ▸ hcore⟩
    | _ =>
      exact (step_log c size ch _).elim fun N hN => rcvInv_grow c start ch _ N rfl hN.1 hr

/-- the indices that have effectively arrived during a run: copies of existing log entries handed to an open receiver -/
def arrivedBy (ch : Chan) : Op → List Nat
  | .arrive j => if (ch.s.log[j]?).isSome && !ch.r.core.closed then [j] else []
  | _ => []

def arrived (c : Cipher) (size : Nat) : Chan → List Op → List Nat
  | _, [] => []
  | ch, op :: ops => arrivedBy ch op ++ arrived c size (step c size ch op) ops

theorem run_induct {c : Cipher} {size : Nat} {P : List Nat → Chan → Prop}
    (hstep : ∀ A ch op, P A ch → opOk ch op = true → P (A ++ arrivedBy ch op) (step c size ch op)) :
    ∀ (ops : List Op) (A : List Nat) (ch : Chan), P A ch → runOk c size ch ops = true →
      P (A ++ arrived c size ch ops) (run c size ch ops) := by
  intro ops
  induction ops with
  | nil => intro A ch h _; simpa [arrived, run] using h
  | cons op ops ih =>
    intro A ch h hok
    simp only [runOk, Bool.and_eq_true] at hok
    simpa [run, arrived, List.append_assoc] using ih _ _ (hstep A ch op h hok.1) hok.2

theorem run_append (ci : Cipher) (size : Nat) (ch : Chan) (l1 l2 : List Op) :
    run ci size ch (l1 ++ l2) = run ci size (run ci size ch l1) l2 :=
  List.foldl_append

theorem runOk_append (ci : Cipher) (size : Nat) : ∀ (l1 l2 : List Op) (ch : Chan),
    runOk ci size ch (l1 ++ l2) = (runOk ci size ch l1 && runOk ci size (run ci size ch l1) l2) := by
  intro l1
  induction l1 with
  | nil => intro l2 ch; simp [runOk, run]
  | cons o l1 ih =>
    intro l2 ch
    simp only [List.cons_append, runOk, run, List.foldl_cons, Bool.and_assoc]
    rw [ih]; rfl

theorem inv_init (c : Cipher) (start : Nat) (h : start < 65536) :
    SndInv c start (init start).s ∧ RcvInv c start (init start) :=
  ⟨{ ids := fun j hj => by simp [init] at hj
     next := by simp [init, idOf]; omega
     frs := fun f hf => by simp [init] at hf
     live := fun _ => by simp [init, Core.consume, core0, wiresOf, wiresLen]
     dead := fun hcl => by simp [init] at hcl },
   { le := by simp [init]
     win := fun _ => sinv_init _ start h
     core := by simp [init, Core.consume] }⟩

theorem inv_reach (c : Cipher) (hc : CipherOk c) (size : Nat) (hsz : 1 ≤ size) (start : Nat) (hs : start < 65536)
    (ops : List Op) (hok : runOk c size (init start) ops = true) :
    SndInv c start (run c size (init start) ops).s ∧ RcvInv c start (run c size (init start) ops) :=
  run_induct (P := fun _ ch => SndInv c start ch.s ∧ RcvInv c start ch)
    (fun _ ch op h => inv_step c hc size hsz start ch op h.1 h.2) ops [] (init start) (inv_init c start hs) hok

theorem complete_of_inv {c : Cipher} {start : Nat} {ch : Chan} (hS : SndInv c start ch.s) (hR : RcvInv c start ch)
    (hall : ch.r.nrel = ch.s.log.length) (hidle : ch.s.pending = []) (hclean : ch.s.closing = false ∨ ch.s.clean = true) :
    ch.r.core = ⟨ch.s.encPos, ⟨[], ch.s.sent⟩, ch.s.closing⟩ := by
  have h := hR.core
  rwa [hall, List.take_length, sndInv_cons hS hidle hclean] at h

theorem RcvInv.rest {c : Cipher} {start : Nat} {ch : Chan} (h : RcvInv c start ch) :
    Core.consume c core0 ch.s.log = Core.consume c ch.r.core (ch.s.log.drop ch.r.nrel) := by
  rw [h.core, ← consume_append, List.take_append_drop]

/-- **delivered is a prefix of sent**, in every state that satisfies the two invariants -/
theorem delivered_prefix_sent (c : Cipher) (start : Nat) (ch : Chan) (hS : SndInv c start ch.s) (hR : RcvInv c start ch) :
    ch.r.core.reasm.out <+: ch.s.sent := by
  have h1 := sndInv_out hS
  rw [hR.rest] at h1
  exact (out_prefix c _ ch.r.core).trans h1

/-- **graceful close is in order.** If the receiver has reached end-of-stream through the sender's DISCONNECT and that
    `disconnect()` was called while no `send` was between its fragments, then everything the application ever passed to `send`
    has been delivered before the end-of-stream, and nothing partial is left. -/
theorem closed_after_everything (c : Cipher) (start : Nat) (ch : Chan) (hS : SndInv c start ch.s) (hR : RcvInv c start ch)
    (hcl : ch.r.core.closed = true) (hclean : ch.s.clean = true) :
    ch.s.closing = true ∧ ch.r.core.reasm.out = ch.s.sent ∧ ch.r.core.reasm.buf = [] := by
  have hcore : Core.consume c core0 ch.s.log = ch.r.core := by rw [hR.rest, consume_closed c _ _ hcl]
  have hclosing : ch.s.closing = true := by
    cases h : ch.s.closing with
    | true => rfl
    | false =>
      have := sndInv_log_open hS h
      rw [hcore, hcl] at this; cases this
  have := ((hS.dead hclosing).2.2 hclean).2
  rw [hcore] at this
  rw [this]; exact ⟨hclosing, rfl, rfl⟩

end Nx.Chan
