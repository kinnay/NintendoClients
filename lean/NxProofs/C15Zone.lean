import NxModel.Nex.C15Zone
import NxProofs.NexDateTime
/-! C15, zones whose rules changed: `local_to_seconds` inverts `local` at every instant whose civil time
occurs once, provided the zone knows at most two offsets, each within a day of UTC, within three days of the instant
(`localToSeconds_once`); the routine itself is only asked about three of the instants it probes (`localToSeconds_two_offsets`). -/
namespace Nx.Nex.Zone
open Nx.Nex.DateTime

theorem localOf_sub (z : Zone) (x : Int) : localOf z x - x = z x := by rw [localOf]; omega

theorem localOf_of_offset {z : Zone} {t o : Int} (h : z (t - o) = o) : localOf z (t - o) = t := by rw [localOf, h]; omega

/-- a row of the routine, for any zone: the first guess `t - z t` has civil time `t` and a day before it the offset was the same -/
theorem localToSeconds_same {z : Zone} {t o : Int} (h0 : z t = o) (h1 : z (t - o) = o) (h2 : z (t - o - 86400) = o) :
    localToSeconds z t = t - o := by
  simp only [localToSeconds, localOf_sub, h0, localOf_of_offset h1, h2, and_self, if_true]

/-- another row: a day before the first guess the offset was `o'`, and `t - o'` has civil time `t` too: that one is returned -/
theorem localToSeconds_fold {z : Zone} {t o o' : Int} (h0 : z t = o) (h1 : z (t - o) = o) (h2 : z (t - o - 86400) = o')
    (hne : o ≠ o') (h3 : z (t - o') = o') : localToSeconds z t = t - o' := by
  simp only [localToSeconds, localOf_sub, h0, localOf_of_offset h1, h2, if_true, hne, and_false, if_false, localOf_of_offset h3]

theorem localOf_localToSeconds {z : Zone} {t : Int}
    (h : localOf z (t - z t) = t ∨ localOf z (t - z (t - z t)) = t) : localOf z (localToSeconds z t) = t := by
  simp only [localToSeconds, localOf_sub]
  by_cases h1 : localOf z (t - z t) = t
  · simp only [h1, if_true, true_and]
    split
    · exact h1
    · split
      · assumption
      · exact h1
  · have h2 := h.resolve_left h1
    simp only [h1, false_and, if_false, h2, if_true]

/-- `t = u + z u` is the civil time of `u` and `t - z t` the first guess of the routine; nothing is asked of the zone at any
other instant, and no bound on the offsets -/
theorem localToSeconds_two_offsets (z : Zone) (a b u : Int) (hu : z u = a ∨ z u = b)
    (ht : z (u + z u) = a ∨ z (u + z u) = b)
    (h1 : z (u + z u - z (u + z u)) = a ∨ z (u + z u - z (u + z u)) = b)
    (once : ∀ u', localOf z u' = localOf z u → u' = u) : localToSeconds z (localOf z u) = u := by
  -- what the routine returns has civil time `t`, which occurs once, provided `t` is not in a gap
  apply once
  apply localOf_localToSeconds
  simp only [localOf]
  by_cases h : z (u + z u) = z u
  · -- the first guess is `u`
    left; rw [h, Int.add_sub_cancel]
  -- `z u` and `z t` differ, so they are `a` and `b`, and the offset at the first guess is one of them
  obtain g | g : z (u + z u - z (u + z u)) = z (u + z u) ∨ z (u + z u - z (u + z u)) = z u := by
    rcases hu with rfl | rfl
    · obtain rfl := ht.resolve_left h; exact h1.symm
    · obtain rfl := ht.resolve_right h; exact h1
  · -- `z t`: the first guess has civil time `t`
    left; rw [g, Int.sub_add_cancel]
  · -- `z u`: the second guess is `u`
    right; rw [g, Int.add_sub_cancel]

theorem zTwo_lt {T a b x : Int} (h : x < T) : zTwo T a b x = a := if_pos h

theorem zTwo_ge {T a b x : Int} (h : T ≤ x) : zTwo T a b x = b := if_neg (Int.not_lt.mpr h)

theorem zTwo_cases (T a b x : Int) : zTwo T a b x = a ∨ zTwo T a b x = b :=
  (Int.lt_or_le x T).imp zTwo_lt zTwo_ge

theorem localToSeconds_two (T a b u : Int)
    (once : ∀ u', localOf (zTwo T a b) u' = localOf (zTwo T a b) u → u' = u) :
    localToSeconds (zTwo T a b) (localOf (zTwo T a b) u) = u :=
  localToSeconds_two_offsets _ a b u (zTwo_cases ..) (zTwo_cases ..) (zTwo_cases ..) once

theorem localToSeconds_once (z : Zone) (a b u : Int)
    (ha : -86400 ≤ a ∧ a ≤ 86400) (hb : -86400 ≤ b ∧ b ≤ 86400)
    (hz : ∀ x, u - 259200 ≤ x → x ≤ u + 259200 → z x = a ∨ z x = b)
    (once : ∀ u', localOf z u' = localOf z u → u' = u) :
    localToSeconds z (localOf z u) = u := by
  -- the three instants `localToSeconds_two_offsets` asks about lie within two days of `u`, the offsets being within one
  have hu := hz u (by omega) (by omega)
  have ht := hz (u + z u) (by omega) (by omega)
  exact localToSeconds_two_offsets z a b u hu ht (hz _ (by omega) (by omega)) once

theorem timestampZ_fromTimestampZ (z : Zone) (T a b t : Int)
    (ha : -86400 ≤ a ∧ a ≤ 86400) (hb : -86400 ≤ b ∧ b ≤ 86400)
    (hz : ∀ x, t - 259200 ≤ x → x ≤ t + 259200 → z x = zTwo T a b x)
    (once : ∀ t', t' + z t' = t + z t → t' = t)
    (h1 : yearOk (t + z t + E) = true) (h2 : yearOk (t + z t + E - 86400) = true) :
    ∃ v, fromTimestampZ z t = .ok v ∧ timestampZ z v = .ok t := by
  obtain ⟨v, hv, hval, hsec⟩ := fromTimestamp_ok (z t) t h1 h2
  refine ⟨v, hv, ?_⟩
  unfold timestampZ
  simp only [hval, if_true, hsec, Except.ok.injEq]
  -- the zone on the scale of the routine
  have key := localToSeconds_once (fun x => z (x - E)) a b (t + E) ha hb
    (fun x hx1 hx2 => hz (x - E) (by omega) (by omega) ▸ zTwo_cases ..)
    (by
      intro u' hu'
      simp only [localOf, Int.add_sub_cancel] at hu'
      have := once (u' - E) (by omega)
      omega)
  simp only [localOf, Int.add_sub_cancel] at key
  rw [show t + z t + ((epochZ * 86400 : Nat) : Int) = t + E + z t by unfold E; omega]
  omega

end Nx.Nex.Zone
