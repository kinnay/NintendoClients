import NxProofs.Refine
import NxProofs.RefineSend
import NxProofs.HandlePath
/-!
# C01 — the two roles of one endpoint do not disturb each other; nor do other substreams

An endpoint is at the same time the sender of one direction and the receiver of the other, on several substreams. `SendFr` /
`RecvFr` say that what the sender / receiver role of one substream reads is the same before and after; everything the other role
and the other substreams do is such a frame step, read off its footprint. `NxProofs/Sys.lean` turns these into steps of the
two-endpoint system that change nothing for the channel under study, so the end-to-end theorems hold for each direction and
substream with arbitrary traffic of the other direction and substreams in between.
-/
namespace Nx.L1
open Nx.Prudp Nx.Chan

/-- the connection state is unchanged, or DISCONNECTED (a dead link found by `transport.send`) -/
def StateFr (c c' : Conn) : Prop := c'.state = c.state ∨ c'.state = STATE_DISCONNECTED

theorem stateFr_refl (c : Conn) : StateFr c c := Or.inl rfl

theorem stateFr_trans {a b c : Conn} (h1 : StateFr a b) (h2 : StateFr b c) : StateFr a c := by
  rcases h2 with h | h
  · rcases h1 with g | g
    · exact Or.inl (h.trans g)
    · exact Or.inr (h.trans g)
  · exact Or.inr h

theorem StateFr.upd (u : Upd) (c : Conn) (h : u.loc ≠ .phase) : StateFr c (u.run c) := by
  cases u with
  | cleanup => exact Or.inr rfl
  | _ => exact Or.inl (Upd.run_life _ c Loc.noConfusion h).1

theorem StateFr.of_steps {F : Loc → Prop} {c c' : Conn} (h : Steps F c c') (hF : ∀ l, F l → l ≠ .phase) : StateFr c c' :=
  h.frame stateFr_refl stateFr_trans fun u c hu => StateFr.upd u c (hF _ hu)

theorem connected_of_stateFr {c c' : Conn} (h : StateFr c c') (h' : c'.state = STATE_CONNECTED) : c.state = STATE_CONNECTED := by
  rcases h with g | g
  · rw [← g]; exact h'
  · rw [g] at h'; exact absurd h' (by decide)

/-- what the SENDER role of substream `sub` reads — its sequence counter, key and encryption position of its stream cipher, the
    cipher switch, the fragment size — is in `c'` what it is in `c`; the state is the same or DISCONNECTED -/
structure SendFr (c c' : Conn) (sub : Nat) : Prop where
  ctr : c'.counters[sub]? = c.counters[sub]?
  ciph : (c'.relCiphers[sub]?).map (fun sc => (sc.key, sc.encPos)) = (c.relCiphers[sub]?).map (fun sc => (sc.key, sc.encPos))
  con : c'.cipherOn = c.cipherOn
  fs : c'.fragmentSize = c.fragmentSize
  st : c'.state = c.state ∨ c'.state = STATE_DISCONNECTED

theorem sendFr_refl (c : Conn) (sub : Nat) : SendFr c c sub := ⟨rfl, rfl, rfl, rfl, Or.inl rfl⟩

theorem sendFr_trans {a b c : Conn} {sub : Nat} (h1 : SendFr a b sub) (h2 : SendFr b c sub) : SendFr a c sub :=
  ⟨h2.ctr.trans h1.ctr, h2.ciph.trans h1.ciph, h2.con.trans h1.con, h2.fs.trans h1.fs, stateFr_trans h1.st h2.st⟩

theorem srel_of_sendFr {c c' : Conn} {sub n pos : Nat} (h : SendFr c c' sub) (hs : SRel c sub n pos) :
    SRel c' sub n pos ∧ cipherOf c' sub = cipherOf c sub := by
  obtain ⟨hc, sc, hsc, hpos⟩ := hs
  obtain ⟨sc', h2, hm⟩ := Option.map_eq_some_iff.mp (h.ciph.trans (congrArg _ hsc))
  exact ⟨⟨by rw [h.ctr]; exact hc, sc', h2, fun hon => by rw [(Prod.mk.inj hm).2]; exact hpos (by rw [← h.con]; exact hon)⟩,
    cipherOf_congr h.con (by rw [h2, hsc]; exact congrArg some (Prod.mk.inj hm).1)⟩

theorem cleanup_sendFr (c : Conn) (sub : Nat) : SendFr c c.cleanup.c sub := ⟨rfl, rfl, rfl, rfl, Or.inr rfl⟩

theorem arm_sendFr (c : Conn) (now : Time) (p : Packet) (k sub : Nat) : SendFr c (c.arm now p k) sub := by
  unfold Conn.arm; cases c.sched <;> exact ⟨rfl, rfl, rfl, rfl, Or.inl rfl⟩

/-- the sender role of `sub` survives every write but one to its own counter / encryption position, or a handshake step -/
def SendFr.tol (sub : Nat) : Loc → Prop
  | .snd i => i ≠ sub
  | .phase => False
  | _ => True

theorem SendFr.upd (sub : Nat) (u : Upd) (c : Conn) (h : SendFr.tol sub u.loc) : SendFr c (u.run c) sub := by
  cases u with
  | cleanup => exact cleanup_sendFr c sub
  | arm now p k => exact arm_sendFr c now p k sub
  | nextId i => exact ⟨List.getElem?_modify_ne _ _ h, rfl, rfl, rfl, Or.inl rfl⟩
  | enc i n => exact ⟨rfl, congrArg _ (List.getElem?_modify_ne _ _ h), rfl, rfl, Or.inl rfl⟩
  | dec i n => exact ⟨rfl, getElem?_modify_map _ _ _ _ _ (fun _ _ => rfl), rfl, rfl, Or.inl rfl⟩
  | synAck | connectAck | closing => exact False.elim h
  | _ => exact ⟨rfl, rfl, rfl, rfl, Or.inl rfl⟩

/-- **receiving does not disturb sending**: an ordinary reliable packet (any substream) through the whole receive path -/
theorem handle_ordinary_sendFr (env : Env) (now : Time) (c : Conn) (p : Packet) (sub : Nat) (ho : Ordinary p) :
    SendFr c (c.handle env now p).c sub :=
  (handle_noack_steps env now c p ho.nsyn ho.ncon ho.nack ho.nmulti).frame (X := fun a b => SendFr a b sub)
    (sendFr_refl · sub) sendFr_trans fun u c hu => SendFr.upd sub u c (by rcases hu with h | h | ⟨_, _, h⟩ <;> rw [h] <;> trivial)

/-- **other substreams do not disturb this one (sender side)** -/
theorem send_other_sendFr (env : Env) (now : Time) (c : Conn) (data : Bytes) (s sub : Nat) (hne : s ≠ sub) :
    SendFr c (c.send env now data s).c sub :=
  (send_steps env now c data s).frame (X := fun a b => SendFr a b sub) (sendFr_refl · sub) sendFr_trans
    fun u c hu => SendFr.upd sub u c (by
      rcases hu with ⟨h, _⟩ | h | h | h <;> rw [h]
      · trivial
      · trivial
      · exact hne
      · trivial)

/-- what the RECEIVER role of substream `sub` reads — window, queue, fragment buffer, EOF flag, link, state, key and decryption
    position of its stream cipher — is in `c'` what it is in `c` (the table lengths are there for `SubWF`) -/
structure RecvFr (c c' : Conn) (sub : Nat) : Prop where
  win : c'.windows[sub]? = c.windows[sub]?
  q : c'.queues[sub]? = c.queues[sub]?
  fb : c'.fragBufs[sub]? = c.fragBufs[sub]?
  lq : c'.queues.length = c.queues.length
  lfb : c'.fragBufs.length = c.fragBufs.length
  eof : c'.eof = c.eof
  link : c'.linkUp = c.linkUp
  st : c'.state = c.state
  len : c'.relCiphers.length = c.relCiphers.length
  ciph : (c'.relCiphers[sub]?).map (fun sc => (sc.key, sc.decPos)) = (c.relCiphers[sub]?).map (fun sc => (sc.key, sc.decPos))
  con : c'.cipherOn = c.cipherOn

theorem recvFr_refl (c : Conn) (sub : Nat) : RecvFr c c sub := ⟨rfl, rfl, rfl, rfl, rfl, rfl, rfl, rfl, rfl, rfl, rfl⟩

theorem recvFr_trans {a b c : Conn} {sub : Nat} (h1 : RecvFr a b sub) (h2 : RecvFr b c sub) : RecvFr a c sub :=
  ⟨h2.win.trans h1.win, h2.q.trans h1.q, h2.fb.trans h1.fb, h2.lq.trans h1.lq, h2.lfb.trans h1.lfb, h2.eof.trans h1.eof, h2.link.trans h1.link, h2.st.trans h1.st,
   h2.len.trans h1.len, h2.ciph.trans h1.ciph, h2.con.trans h1.con⟩

theorem rrel_of_recvFr {c c' : Conn} {sub : Nat} {core : Core} (h : RecvFr c c' sub) (hw : SubWF c sub) (hr : RRel c sub core) :
    SubWF c' sub ∧ RRel c' sub core ∧ cipherOf c' sub = cipherOf c sub ∧ c'.windows[sub]? = c.windows[sub]? ∧
    (c.linkUp = true → c'.linkUp = true) ∧ (EofState c → EofState c') := by
  refine ⟨⟨by rw [h.len]; exact hw.1, by rw [h.lfb]; exact hw.2.1, by rw [h.lq]; exact hw.2.2⟩, ⟨by rw [h.eof]; exact hr.closed,
    by rw [h.q]; exact hr.out, fun he => ?_⟩, ?_, h.win, fun hl => by rw [h.link]; exact hl,
    fun he hh => by rw [h.st]; exact he (by rw [← h.eof]; exact hh)⟩
  · have hl := hr.live (by rw [← h.eof]; exact he)
    refine ⟨by rw [h.fb]; exact hl.1, fun hon => ?_⟩
    obtain ⟨sc, hsc, hd⟩ := hl.2 (by rw [← h.con]; exact hon)
    obtain ⟨sc', h2, hm⟩ := Option.map_eq_some_iff.mp (h.ciph.trans (congrArg _ hsc))
    exact ⟨sc', h2, by rw [(Prod.mk.inj hm).2]; exact hd⟩
  · exact cipherOf_congr h.con (by simpa [Option.map_map, Function.comp_def] using congrArg (Option.map Prod.fst) h.ciph)

theorem arm_recvFr (c : Conn) (now : Time) (p : Packet) (k sub : Nat) : RecvFr c (c.arm now p k) sub := by
  unfold Conn.arm; cases c.sched <;> exact ⟨rfl, rfl, rfl, rfl, rfl, rfl, rfl, rfl, rfl, rfl, rfl⟩

/-- the receiver role of `sub` survives every write but one to its own window / buffers / decryption position, `cleanup`, or a
    handshake step -/
def RecvFr.tol (sub : Nat) : Loc → Prop
  | .rcv i => i ≠ sub
  | .life | .phase => False
  | _ => True

/- `{ recvFr_refl c sub with … }`: a field the update does not write is definitionally what it was -/
theorem RecvFr.upd (sub : Nat) (u : Upd) (c : Conn) (h : RecvFr.tol sub u.loc) : RecvFr c (u.run c) sub := by
  cases u with
  | cleanup | synAck | connectAck | closing => exact False.elim h
  | arm now p k => exact arm_recvFr c now p k sub
  | enc i n =>
    exact { recvFr_refl c sub with len := List.length_modify _ _ _, ciph := getElem?_modify_map _ _ _ _ _ (fun _ _ => rfl) }
  | dec i n =>
    exact { recvFr_refl c sub with len := List.length_modify _ _ _, ciph := getElem?_modify_map _ _ _ _ _ (fun e => absurd e h) }
  | window i w => exact { recvFr_refl c sub with win := List.getElem?_set_ne h }
  | buffer i b => exact { recvFr_refl c sub with fb := List.getElem?_set_ne h, lfb := List.length_set }
  | deliver i b q =>
    exact { recvFr_refl c sub with q := List.getElem?_set_ne h, fb := List.getElem?_set_ne h, lq := List.length_set, lfb := List.length_set }
  | _ => exact { recvFr_refl c sub with }

/-- **sending does not disturb receiving**: the send path on a live link -/
theorem RecvFr.of_send {now : Time} {s sub : Nat} {c c' : Conn} (h : Steps (sendLoc now true s) c c') : RecvFr c c' sub :=
  h.frame (X := fun a b => RecvFr a b sub) (recvFr_refl · sub) recvFr_trans
    fun u c hu => RecvFr.upd sub u c (by
      rcases hu with ⟨_, h⟩ | h | h | h
      · cases h
      all_goals rw [h]; trivial)

theorem sendPacket_recvFr (env : Env) (now : Time) (c : Conn) (p : Packet) (sub : Nat) (hl : c.linkUp = true) :
    RecvFr c (c.sendPacket env now p).c sub :=
  .of_send (hl ▸ sendPacket_steps env now c p rfl)

theorem send_recvFr (env : Env) (now : Time) (c : Conn) (data : Bytes) (s sub : Nat) (hl : c.linkUp = true) :
    RecvFr c (c.send env now data s).c sub :=
  .of_send (hl ▸ send_steps env now c data s)

theorem sendPing_recvFr (env : Env) (now : Time) (c : Conn) (sub : Nat) (hl : c.linkUp = true) : RecvFr c (c.sendPing env now).c sub :=
  sendPacket_recvFr env now c _ sub hl

/-- **acknowledgements do not disturb receiving** (an acknowledged DISCONNECT is excluded: it ends the connection) -/
theorem handle_ack_recvFr (env : Env) (now : Time) (c : Conn) (p : Packet) (sub : Nat)
    (hack : (hasAck p.flags || hasMultiAck p.flags) = true) (hns : p.type ≠ TYPE_SYN) (hnc : p.type ≠ TYPE_CONNECT)
    (hnd : p.type ≠ TYPE_DISCONNECT) : RecvFr c (c.handle env now p).c sub :=
  (handle_ack_steps env now c p hack hns hnc).frame (X := fun a b => RecvFr a b sub) (recvFr_refl · sub) recvFr_trans
    fun u c hu => RecvFr.upd sub u c (by
      rcases hu with h | ⟨_, h⟩
      · rw [h]; trivial
      · exact absurd h hnd)

/-- **other substreams do not disturb this one (receiver side)**: `process_reliable` of a packet of another substream, as long
    as it does not end the connection (a released DISCONNECT does), leaves the receiver role of `sub` untouched -/
theorem processReliable_other_recvFr (env : Env) (c : Conn) (p : Packet) (sub : Nat) (hne : p.substreamId ≠ sub)
    (hgw : ∀ w, c.windows[p.substreamId]? = some w → ∀ kq ∈ w.packets, kq.2.substreamId = p.substreamId)
    (hes : EofState c) (heof : (c.processReliable env p).c.eof = c.eof) : RecvFr c (c.processReliable env p).c sub := by
  -- Along the updates the EOF flag is only ever set, and while it is what it was at the start so is the receiver role of `sub`:
  -- a `cleanup` that leaves the flag as it was found it set, and then (`hes`) the connection was DISCONNECTED already.
  refine ((processReliable_steps env c p).inv (I := fun x => (c.eof = true → x.eof = true) ∧ (x.eof = c.eof → RecvFr c x sub))
    (fun u x hu hx => ?_) ⟨id, fun _ => recvFr_refl c sub⟩).2 heof
  rcases hu with h | ⟨i, hi, h⟩
  · cases u <;> cases h
    refine ⟨fun _ => rfl, fun he => ?_⟩
    have hx' := hx.2 ((hx.1 he.symm).trans he)
    exact recvFr_trans hx' { recvFr_refl x sub with eof := (hx.1 he.symm).symm, st := (hes he.symm).symm.trans hx'.st.symm }
  · have hr := RecvFr.upd sub u x (by
      rw [h]
      rcases hi with rfl | ⟨w, kq, hw, hkq, rfl⟩
      · exact hne
      · exact fun e => hne ((hgw w hw kq hkq).symm.trans e))
    exact ⟨fun hc => hr.eof.trans (hx.1 hc), fun he => recvFr_trans (hx.2 (hr.eof.symm.trans he)) hr⟩

theorem handle_other_recvFr (env : Env) (now : Time) (c : Conn) (p : Packet) (sub : Nat) (ho : Ordinary p) (hl : c.linkUp = true)
    (hne : p.substreamId ≠ sub)
    (hgw : ∀ w, c.windows[p.substreamId]? = some w → ∀ kq ∈ w.packets, kq.2.substreamId = p.substreamId)
    (hes : EofState c) (heof : (c.handle env now p).c.eof = c.eof) : RecvFr c (c.handle env now p).c sub := by
  rw [handle_reliable_path env now c p ho hl] at heof ⊢
  cases hacc : c.accepts env now p with
  | false => exact recvFr_refl c sub
  | true => rw [hacc] at heof; exact processReliable_other_recvFr env c p sub hne hgw hes heof

end Nx.L1
