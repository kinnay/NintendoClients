import NxProofs.Established
import NxProofs.HandleForm
import NxProofs.SetAt
/-!
# C01 — the server's half of `Established`, for every configuration

For every environment, CONNECT packet and ticket key: what `process_connect` registers for a CONNECT from an unknown peer is
`Conn.new …` with the negotiated parameters, logged in if the server has a key, after `serve()` (`server_registered_conn`) — so on
every substream the settings allow its receiver and sender roles are fresh (`server_half_established`: `ServerFresh`; the window of
substream 0 stands at 2: the CONNECT took id 1).
-/
namespace Nx.L1
open Nx.Prudp Nx.Chan

theorem server_registered_conn (env : Env) (now : Time) (rnd : Rnd) (up : Bool) (s : ServerStream) (p : Packet) (addr : Addr)
    (hnew : clientLookup (addr, p.sourcePort, p.sourceType) s.clients = none) (c' : Conn)
    (hreg : clientLookup (addr, p.sourcePort, p.sourceType) (s.processConnect env now rnd up p addr).s.clients = some c') :
    (s.key = none ∧ c' = (serverBase env rnd up s p addr).serve now) ∨
    ∃ pid cid sk, s.key ≠ none ∧ c' = ((serverBase env rnd up s p addr).login pid cid sk).serve now := by
  obtain ⟨_, c, resp, hl, rfl⟩ := server_registered env now rnd up s p addr hnew c' hreg
  cases hk : s.key with
  | none => rw [loginStep_none env now s p _ _ hk] at hl; cases hl; exact Or.inl ⟨rfl, rfl⟩
  | some key =>
    rw [loginStep_some env now s p _ _ key hk] at hl
    split at hl
    · cases hl
    · cases hl; exact Or.inr ⟨_, _, _, by simp, rfl⟩

theorem fresh_at {c : Conn} {n sub : Nat} {ks : List Bytes} (hn : sub < n)
    (hw : c.windows = List.replicate n { next := 1, packets := [] }) (hq : c.queues = List.replicate n [])
    (hf : c.fragBufs = List.replicate n []) (hk : ks.length = n ∧ c.relCiphers = ks.map (fun k => { key := k })) :
    c.windows[sub]? = some { next := 1, packets := [] } ∧ c.queues[sub]? = some [] ∧ c.fragBufs[sub]? = some [] ∧
    (c.relCiphers[sub]?).map (·.encPos) = some 0 ∧ (c.relCiphers[sub]?).map (·.decPos) = some 0 := by
  have hs : sub < ks.length := hk.1 ▸ hn
  rw [hw, hq, hf, hk.2, List.getElem?_map, List.getElem?_eq_getElem hs]
  exact ⟨List.getElem?_replicate_of_lt hn, List.getElem?_replicate_of_lt hn, List.getElem?_replicate_of_lt hn, rfl, rfl⟩

theorem serve_fresh (c : Conn) (now : Time) (sub n : Nat) (up : Bool) {ks : List Bytes} (hn : sub < n)
    (hw : c.windows = List.replicate n { next := 1, packets := [] }) (hq : c.queues = List.replicate n [])
    (hf : c.fragBufs = List.replicate n []) (he : c.eof = false) (hl : c.linkUp = up) (hc : c.counters = List.replicate n 1)
    (hk : ks.length = n ∧ c.relCiphers = ks.map (fun k => { key := k })) :
    ServerFresh (c.serve now) sub up := by
  obtain ⟨_, q, fb, enc, dec⟩ := fresh_at hn hw hq hf hk
  refine ⟨?_, q, fb, he, hl, hc ▸ List.getElem?_replicate_of_lt hn, enc, dec, ?_, rfl⟩
  · -- `serve()` steps the window of substream 0 past the CONNECT
    show (setAt c.windows 0 _)[sub]? = _
    rw [hw, setAt_replicate 0 _ _ hn, List.getElem?_replicate_of_lt (by omega)]
    by_cases h0 : sub = 0 <;> simp [h0, seqNext]
  · simp [resendsOf, Conn.serve, Sched.repeat, actPacket]

/-- the substream keys of a connection object after `Conn.new` and a login with `creds` (the client's `handshake()`, the server's
    `process_connect`); without credentials every substream has `DEFAULT_KEY = b"CD&ML"` (nintendo/nex/prudp.py) -/
def clientKeys (env : Env) (creds : Option Creds) : List Bytes :=
  match creds with
  | none => List.replicate (env.s.maxSubstreamId + 1) [0x43, 0x44, 0x26, 0x4D, 0x4C]
  | some cr => keyChain (env.s.maxSubstreamId + 1) cr.sessionKey

theorem server_half_established (env : Env) (now : Time) (rnd : Rnd) (up : Bool) (s : ServerStream) (p : Packet) (addr : Addr)
    (hnew : clientLookup (addr, p.sourcePort, p.sourceType) s.clients = none) (c' : Conn)
    (hreg : clientLookup (addr, p.sourcePort, p.sourceType) (s.processConnect env now rnd up p addr).s.clients = some c')
    (sub : Nat) (hsub : sub ≤ env.s.maxSubstreamId) : ServerFresh c' sub up := by
  have hn : sub < env.s.maxSubstreamId + 1 := by omega
  rcases server_registered_conn env now rnd up s p addr hnew c' hreg with ⟨_, h⟩ | ⟨pid, cid, sk, _, h⟩
  · rw [h]
    exact serve_fresh _ now sub _ up (ks := clientKeys env none) hn
      rfl rfl rfl rfl rfl rfl ⟨by simp [clientKeys], by simp [clientKeys, serverBase, Conn.new]⟩
  · rw [h]
    exact serve_fresh _ now sub _ up (ks := keyChain (env.s.maxSubstreamId + 1) sk) hn
      rfl rfl rfl rfl rfl rfl ⟨keyChain_length _ _, by simp [Conn.login, serverBase, Conn.new]⟩

theorem server_ciphers (env : Env) (now : Time) (rnd : Rnd) (up : Bool) (s : ServerStream) (p : Packet) (addr : Addr)
    (hnew : clientLookup (addr, p.sourcePort, p.sourceType) s.clients = none) (c' : Conn)
    (hreg : clientLookup (addr, p.sourcePort, p.sourceType) (s.processConnect env now rnd up p addr).s.clients = some c') :
    c'.cipherOn = (env.s.transport == TRANSPORT_UDP) ∧
    (s.key = none → c'.relCiphers = (clientKeys env none).map (fun k => { key := k })) := by
  rcases server_registered_conn env now rnd up s p addr hnew c' hreg with ⟨_, h⟩ | ⟨pid, cid, sk, hk, h⟩
  · rw [h]; exact ⟨rfl, fun _ => by simp [clientKeys, Conn.serve, serverBase, Conn.new]⟩
  · rw [h]; exact ⟨rfl, fun hn => absurd hn hk⟩

end Nx.L1
