import NxModel.Nex.RmcClientAbort
import NxProofs.RmcClientX
/-! Callers that end while suspended (`abort`: a `send` that raises, a cancellation). `wake_congr`: what resuming a task does
depends on its own frame, `fired`, `closed` and `responses` only, which an abort of another task leaves alone. `arun_crun`: the
request messages of a run (task, call id) are those of the counter machine (`cstep`, `NxProofs/RmcClient.lean`) on the core
ops; an abort is no op of it, so the id counter does not see aborts and, by `crun_distinct`, all request ids stay pairwise
distinct. -/
namespace Nx.RmcClient

theorem abort_frame_gone (x : XState) (t : Nat) : dlookup t (astep x (.abort t)).1.core.frames = none := by
  simp only [astep]
  split
  · assumption
  · simp [abortFrame]

theorem wake_congr (s s' : State) (t' : Nat) (hf : dlookup t' s'.frames = dlookup t' s.frames) (h1 : s'.fired = s.fired)
    (h2 : s'.closed = s.closed) (h3 : s'.responses = s.responses) : (step s' (.wake t')).2 = (step s (.wake t')).2 := by
  simp only [step, hf, h1, h2, h3]
  cases dlookup t' s.frames with
  | none => rfl
  | some id =>
    by_cases hm : t' ∈ s.fired
    · simp only [hm, if_true]
      cases s.closed with
      | true => simp
      | false =>
        cases dlookup id s.responses <;> rfl
    · simp [hm]

theorem sentOf_append (a b : List AOut) : sentOf (a ++ b) = sentOf a ++ sentOf b := by
  induction a with
  | nil => rfl
  | cons o r ih =>
    cases o with
    | x xo =>
      cases xo with
      | core co => cases co <;> simp [sentOf, ih]
      | _ => simp [sentOf, ih]
    | _ => simp [sentOf, ih]

theorem sentOf_map_x (l : List XOut) : sentOf (l.map AOut.x) = sentCore (coreOuts l) := by
  induction l with
  | nil => rfl
  | cons o r ih =>
    cases o with
    | core co => cases co <;> simp [sentOf, sentCore, coreOuts, ih]
    | _ => simp [sentOf, coreOuts, ih]

def xopsOf : List AOp → List XOp
  | [] => []
  | .x o :: r => o :: xopsOf r
  | .abort _ :: r => xopsOf r

theorem arun_crun (x : XState) (ops : List AOp) :
    counters (arun x ops).1.core = (crun (counters x.core) (coreOps (xopsOf ops))).1 ∧
      sentOf (arun x ops).2 = (crun (counters x.core) (coreOps (xopsOf ops))).2 := by
  induction ops generalizing x with
  | nil => exact ⟨rfl, rfl⟩
  | cons op rest ih =>
    cases op with
    | abort t =>
      have h : counters (astep x (.abort t)).1.core = counters x.core ∧ sentOf (astep x (.abort t)).2 = [] := by
        simp only [astep]; split <;> exact ⟨rfl, rfl⟩
      simp only [arun, xopsOf, sentOf_append, h.2, List.nil_append, ← h.1]
      exact ih _
    | x o =>
      obtain ⟨c1, c2⟩ := xstep_core x o
      obtain ⟨r1, r2⟩ := run_crun x.core (coreOps [o])
      have e : coreOps (o :: xopsOf rest) = coreOps [o] ++ coreOps (xopsOf rest) := coreOps_append [o] _
      simp only [arun, xopsOf, e, crun_append, sentOf_append, astep, sentOf_map_x, c2, r2, ← r1, ← c1]
      exact ⟨(ih _).1, congrArg _ (ih _).2⟩

theorem xopsOf_dropAborts (ops : List AOp) : xopsOf (dropAborts ops) = xopsOf ops := by
  induction ops with
  | nil => rfl
  | cons op rest ih => cases op <;> simp [dropAborts, xopsOf, ih]

end Nx.RmcClient
