import NxProofs.C15Zone
/-! C05 with the server's time zone as an axis (daylight saving included). A ticket's stamp is the LOCAL civil time of its issue
instant (`localOf z issued`, written by `DateTime.fromtimestamp`); the server decodes it with `DateTime.timestamp()` (CPython's
`local_to_seconds(fold = 0)`: `Zone.localToSeconds`, C15's model) and admits iff `decoded >= now - 120`. Around ONE rule change
(`zTwo T a b`: offset `a` before `T`, `b` from `T` on; set back by at most 24 h, CPython's `max_fold_seconds`) the stamp decodes
exactly, except that the second pass of a repeated hour (`T <= issued < T + (a - b)`) decodes to the first, `a - b` seconds early
(`decode_eq`). So an admitted ticket is at most 120 s of REAL time old, and a fresh one stamped in the second pass is refused. -/
namespace Nx.C05Dst
open Nx.Nex.Zone

theorem decode_first_pass (T a b u : Int) (hb : a - b ≤ 86400) (h1 : T ≤ u + (a - b)) (h2 : u < T) :
    localToSeconds (zTwo T a b) (u + a) = u := by
  by_cases h0 : u + a < T
  · -- the civil time read as UTC still lies before the change, and so does every instant probed
    rw [localToSeconds_same (zTwo_lt h0) (zTwo_lt (by omega)) (zTwo_lt (by omega))]; omega
  · -- the first guess is the twin in the second pass; the probe a day earlier finds the old offset
    rw [localToSeconds_fold (o' := a) (zTwo_ge (by omega)) (zTwo_ge (by omega)) (zTwo_lt (by omega)) (by omega) (zTwo_lt (by omega))]
    omega

theorem civil_once (T a b u u' : Int) (h : u + (a - b) < T ∨ T + (a - b) ≤ u)
    (hu : localOf (zTwo T a b) u' = localOf (zTwo T a b) u) : u' = u := by
  simp only [localOf, zTwo] at hu
  split at hu <;> split at hu <;> omega

theorem decode_eq (T a b u : Int) (hb : a - b ≤ 86400) :
    localToSeconds (zTwo T a b) (localOf (zTwo T a b) u) = if T ≤ u ∧ u < T + (a - b) then u - (a - b) else u := by
  by_cases h2 : T ≤ u ∧ u < T + (a - b)
  · -- second pass (only when the clock was set back, `b < a`): the civil time of the first-pass instant `a - b` earlier
    rw [if_pos h2, localOf, zTwo_ge h2.1, ← decode_first_pass T a b (u - (a - b)) hb (by omega) (by omega)]
    congr 1; omega
  rw [if_neg h2]
  by_cases h1 : T ≤ u + (a - b) ∧ u < T
  · rw [localOf, zTwo_lt h1.2, decode_first_pass T a b u hb h1.1 h1.2]
  · -- outside both passes the civil time occurs once
    exact localToSeconds_two T a b u fun u' => civil_once T a b u u' (by omega)

theorem decode_le (T a b u : Int) (hb : a - b ≤ 86400) :
    localToSeconds (zTwo T a b) (localOf (zTwo T a b) u) ≤ u := by
  rw [decode_eq T a b u hb]
  split <;> omega

/-- comparing WALL-CLOCK readings (`local(issued) >= local(now - 120)`) instead of instants would admit, inside a repeated hour,
a ticket that is 40 minutes old (central Europe, 25 Oct 2026: clock set back at 01:00 UTC) -/
theorem wall_clock_order_admits_stale :
    let z := zTwo 1792890000 7200 3600
    let issued : Int := 1792890000 - 1800
    let now : Int := 1792890000 + 600
    now - issued = 2400 ∧ localOf z (now - 120) ≤ localOf z issued ∧
      localToSeconds z (localOf z issued) < now - 120 := by
  decide

-- `decode_eq` at an instant of a second pass (clock set back), and at the same instant with the clock set forward
example : localToSeconds (zTwo 1000000 7200 3600) (localOf (zTwo 1000000 7200 3600) 1000100) = 1000100 - 3600 := by decide
example : localToSeconds (zTwo 1000000 3600 7200) (localOf (zTwo 1000000 3600 7200) 1000100) = 1000100 := by decide

end Nx.C05Dst
