import NxProofs.PrudpBasic
/-! v0 codec (all 8 variants, one proof parametric in `V0Cfg`): decode ∘ encode, concatenation, progress -/
namespace Nx.Prudp

theorem v0Checksum_lt (c : V0Cfg) (d : Bytes) :
    v0Checksum c d < (if c.checksumVersion = 0 then 4294967296 else 256) := by
  unfold v0Checksum
  by_cases h : c.checksumVersion = 0
  · simp only [h, if_true]; omega
  · simp only [h, if_false]; omega

theorem v0ChecksumBytes_length (c : V0Cfg) (d : Bytes) : (v0ChecksumBytes c d).length = c.csz := by
  unfold v0ChecksumBytes V0Cfg.csz; split <;> simp

theorem v0RdChecksum_enc (c : V0Cfg) (d rest : Bytes) :
    v0RdChecksum c (v0ChecksumBytes c d ++ rest) = .ok (v0Checksum c d, rest) := by
  have := v0Checksum_lt c d
  unfold v0RdChecksum v0ChecksumBytes
  by_cases h : c.checksumVersion = 0
  · simp only [h, if_true] at this ⊢; exact rdU32_u32le _ _ this
  · simp only [h, if_false] at this ⊢; exact rdU8_u8 _ _ this

theorem v0RdTypeFlags_enc (c : V0Cfg) (p : Packet) (x : Bytes)
    (h : if c.flagsVersion = 0 then p.type < 8 ∧ p.flags < 32 else p.type < 16 ∧ p.flags < 4096) :
    v0RdTypeFlags c (v0TypeFlags c p ++ x) = .ok (p.flags, p.type, x) := by
  unfold v0RdTypeFlags v0TypeFlags
  by_cases hf : c.flagsVersion = 0
  · rw [if_pos hf] at h
    rw [if_pos hf, if_pos hf, pyOr3 _ h.1, rdU8_u8 _ _ (by omega)]
    simp only [add_mul_div_mod _ h.1]
  · rw [if_neg hf] at h
    rw [if_neg hf, if_neg hf, pyOr4 _ h.1, rdU16_u16le _ _ (by omega)]
    simp only [add_mul_div_mod _ h.1]

/-- connection signature and fragment id, as written by `encode_options` -/
def v0OptsA (p : Packet) : Bytes :=
  (if isSynOrConnect p.type then p.connectionSignature.getD [] else []) ++ (if p.type = 2 then u8 p.fragmentId else [])

def v0SizeField (p : Packet) : Bytes := if hasSize p.flags then u16le p.payload.length else []

theorem v0RdOptions_enc (p : Packet) (x : Bytes)
    (hcs : if isSynOrConnect p.type then optLen p.connectionSignature 4 else p.connectionSignature = none)
    (hfr : if p.type = 2 then p.fragmentId < 256 else p.fragmentId = 0) :
    v0RdOptions p.type (v0OptsA p ++ x) = .ok (p.connectionSignature, p.fragmentId, x) := by
  unfold v0RdOptions v0OptsA
  by_cases hs : isSynOrConnect p.type = true
  · have h2 : p.type ≠ 2 := fun e => by rw [e] at hs; cases hs
    rw [if_pos hs] at hcs
    rw [if_neg h2] at hfr
    obtain ⟨s, hsig, hsl⟩ := optLen_some hcs
    rw [if_pos hs, if_pos hs, if_neg h2, hsig, hfr, Option.getD_some, List.append_nil, rd_append' _ _ hsl]
    exact if_neg h2
  · rw [if_neg hs] at hcs
    rw [if_neg hs, if_neg hs, hcs, List.nil_append]
    by_cases h2 : p.type = 2
    · rw [if_pos h2] at hfr
      rw [if_pos h2]
      show (if p.type = 2 then _ else _) = _
      rw [if_pos h2, rdU8_u8 _ _ hfr]
    · rw [if_neg h2] at hfr
      rw [if_neg h2, hfr]
      exact if_neg h2

/-- `pre` stands for the fixed fields, `ckb` for the checksum. Without a size field the payload runs to the checksum at
    the very end of the datagram, so nothing may follow (`hr`). -/
theorem v0RdPayload_enc (c : V0Cfg) (p : Packet) (pre ckb rest : Bytes) (hck : ckb.length = c.csz)
    (hr : hasSize p.flags = true ∨ rest = []) (hpl : hasSize p.flags = true → p.payload.length < 65536) :
    v0RdPayload c p.flags (pre ++ (v0SizeField p ++ (p.payload ++ (ckb ++ rest))))
        (v0SizeField p ++ (p.payload ++ (ckb ++ rest))) =
      .ok (p.payload, pre ++ (v0SizeField p ++ p.payload), ckb ++ rest) := by
  unfold v0RdPayload v0SizeField
  by_cases hs : hasSize p.flags = true
  · simp only [hs, if_true, rdU16_u16le _ _ (hpl hs), rd_append]
    have e : pre ++ (u16le p.payload.length ++ (p.payload ++ (ckb ++ rest))) =
        (pre ++ (u16le p.payload.length ++ p.payload)) ++ (ckb ++ rest) := by simp only [List.append_assoc]
    rw [e, List.length_append, Nat.add_sub_cancel, List.take_left]
  · have hrest : rest = [] := hr.resolve_left hs
    subst hrest
    simp only [hs, Bool.false_eq_true, if_false, List.nil_append, List.append_nil, ← hck]
    have e : pre ++ (p.payload ++ ckb) = (pre ++ p.payload) ++ ckb := by simp only [List.append_assoc]
    rw [e, List.length_append, List.length_append, Nat.add_sub_cancel, Nat.add_sub_cancel, List.take_left, List.take_left,
      List.drop_left]

/-- the bytes before the size field -/
def v0Pre (c : V0Cfg) (p : Packet) : Bytes :=
  u8 (pyOr p.sourcePort p.sourceType 4) ++ (u8 (pyOr p.destPort p.destType 4) ++ (v0TypeFlags c p ++ (u8 p.sessionId ++
    (p.signature.getD [] ++ (u16le p.packetId ++ v0OptsA p)))))

theorem v0Body_eq (c : V0Cfg) (p : Packet) : v0Body c p = v0Pre c p ++ (v0SizeField p ++ p.payload) := by
  simp [v0Body, v0Pre, v0EncodeOptions, v0OptsA, v0SizeField]

theorem v0DecodeOne_encode (c : V0Cfg) (p : Packet) (rest : Bytes) (h : V0WF c p)
    (hr : hasSize p.flags = true ∨ rest = []) :
    v0DecodeOne c (v0Encode c p ++ rest) = .ok (p, rest) := by
  obtain ⟨hver, hst, hsp, hdt, hdp, htf, hse, hpid, hsig, hcs, hfr, hsub, hiu, hms, hsf, hmv, hpl⟩ := h
  obtain ⟨sg, hsg, hsgl⟩ := optLen_some hsig
  have h1 : p.sourcePort + p.sourceType * 16 < 256 := by omega
  have h2 : p.destPort + p.destType * 16 < 256 := by omega
  have hck := v0RdChecksum_enc c (v0Body c p) rest
  have hpay := v0RdPayload_enc c p (v0Pre c p) _ rest (v0ChecksumBytes_length c (v0Body c p)) hr hpl
  unfold v0DecodeOne v0Encode
  -- the checksum bytes stay opaque: they are computed from the body that the reader hands back as `ckdata`
  generalize v0ChecksumBytes c (v0Body c p) = ckb at *
  rw [← v0Body_eq] at hpay
  rw [v0Body_eq]
  simp only [v0Pre, pyOr4 _ hsp, pyOr4 _ hdp, List.append_assoc, hsg, Option.getD_some] at hpay ⊢
  simp only [rdU8_u8 _ _ h1, rdU8_u8 _ _ h2, v0RdTypeFlags_enc c p _ htf, rdU8_u8 _ _ hse, rd_append' _ _ hsgl,
    rdU16_u16le _ _ hpid, v0RdOptions_enc p _ hcs hfr, hpay, hck]
  simp only [ne_eq, not_true_eq_false, if_false, add_mul_div_mod _ hsp, add_mul_div_mod _ hdp, Except.ok.injEq,
    Prod.mk.injEq, and_true]
  obtain ⟨ty, fl, ver, st, sp, dt, dp, se, pid, fr, sub, cs, iu, ms, sf, mv, sig, pl⟩ := p
  simp at hsub hms hiu hver hsf hmv hsg
  simp [hsub, hms, hiu, hver, hsf, hmv, hsg]

/-- every packet except the last carries `FLAG_HAS_SIZE` -/
def v0SizedButLast : List Packet → Prop
  | [] => True
  | [_] => True
  | p :: q :: r => hasSize p.flags = true ∧ v0SizedButLast (q :: r)

theorem v0Encode_ne_nil (c : V0Cfg) (p : Packet) : v0Encode c p ≠ [] := by
  simp [v0Encode, v0Body, u8]

/- as for `v1Loop_eq`: the matcher constants of `v0Loop` and `decLoop` differ, so each `match` is opened by `rcases` -/
theorem v0Loop_eq (c : V0Cfg) : v0Loop c = decLoop (v0DecodeOne c) := by
  funext fuel
  induction fuel with
  | zero => rfl
  | succ f ih =>
    funext d
    rw [v0Loop, decLoop, ih]
    split; · rfl
    rcases v0DecodeOne c d with e | ⟨p, r⟩; · rfl
    simp only []
    cases decLoop (v0DecodeOne c) f r <;> rfl

theorem v0Decode_concat (c : V0Cfg) (ps : List Packet) (hwf : ∀ p ∈ ps, V0WF c p) (hs : v0SizedButLast ps) :
    v0Decode c (ps.flatMap (v0Encode c)) = .ok ps := by
  rw [v0Decode, v0Loop_eq]
  refine decLoop_flatMap (fun ps => (∀ p ∈ ps, V0WF c p) ∧ v0SizedButLast ps) ?_ ps _ ⟨hwf, hs⟩ (Nat.lt_succ_self _)
  intro p l ⟨hwf, hs⟩
  have hwf' : ∀ q ∈ l, V0WF c q := fun q hq => hwf q (List.mem_cons_of_mem _ hq)
  have hp := hwf p List.mem_cons_self
  cases l with
  | nil => exact ⟨⟨hwf', trivial⟩, v0Encode_ne_nil c p, v0DecodeOne_encode c p _ hp (Or.inr rfl)⟩
  | cons q l => exact ⟨⟨hwf', hs.2⟩, v0Encode_ne_nil c p, v0DecodeOne_encode c p _ hp (Or.inl hs.1)⟩

theorem v0Decode_encode (c : V0Cfg) (p : Packet) (h : V0WF c p) : v0Decode c (v0Encode c p) = .ok [p] := by
  have := v0Decode_concat c [p] (by simpa using h) trivial
  simpa using this

theorem v0RdTypeFlags_len {c : V0Cfg} {d r : Bytes} {f t : Nat} (h : v0RdTypeFlags c d = .ok (f, t, r)) :
    r.length + 1 ≤ d.length := by
  unfold v0RdTypeFlags at h
  by_cases hf : c.flagsVersion = 0
  · rw [if_pos hf] at h
    rcases h1 : rdU8 d with e | ⟨tf, r1⟩ <;> simp only [h1, reduceCtorEq] at h
    cases h; have := rdU8_len h1; omega
  · rw [if_neg hf] at h
    rcases h1 : rdU16 d with e | ⟨tf, r1⟩ <;> simp only [h1, reduceCtorEq] at h
    cases h; have := rdU16_len h1; omega

theorem v0RdOptions_len {t : Nat} {d r : Bytes} {cs : Option Bytes} {f : Nat} (h : v0RdOptions t d = .ok (cs, f, r)) :
    r.length ≤ d.length := by
  unfold v0RdOptions at h
  generalize hq : (if isSynOrConnect t = true then _ else _) = q at h
  rcases q with e | ⟨cs', r1⟩
  · cases h
  have h1 : r1.length ≤ d.length := by
    by_cases hsc : isSynOrConnect t = true
    · rw [if_pos hsc] at hq
      rcases hrd : rd 4 d with e | ⟨x, r0⟩ <;> rw [hrd] at hq <;> cases hq
      exact Nat.le.intro (rd_len hrd).symm
    · rw [if_neg hsc] at hq; cases hq; exact Nat.le_refl _
  by_cases h2 : t = 2
  · simp only [if_pos h2] at h
    rcases hf : rdU8 r1 with e | ⟨f', r2⟩ <;> rw [hf] at h <;> cases h
    have := rdU8_len hf; omega
  · simp only [if_neg h2] at h; cases h; exact h1

/-- With a size field what is left behind the payload is a suffix of what was left before it. Without one it is the last
    `csz` bytes of the datagram, which in the negative-length corner (`r` shorter than `csz`) are more than `r` held: hence
    the disjunction. -/
theorem v0RdPayload_len {c : V0Cfg} {flags : Nat} {whole r pl ck tl : Bytes}
    (h : v0RdPayload c flags whole r = .ok (pl, ck, tl)) :
    tl.length ≤ r.length ∨ tl.length ≤ c.csz := by
  unfold v0RdPayload at h
  by_cases hs : hasSize flags = true
  · rw [if_pos hs] at h
    rcases h1 : rdU16 r with e | ⟨size, r1⟩ <;> simp only [h1, reduceCtorEq] at h
    rcases h2 : rd size r1 with e | ⟨payload, r2⟩ <;> simp only [h2, reduceCtorEq] at h
    cases h
    have := rdU16_len h1; have := rd_len h2
    left; omega
  · rw [if_neg hs] at h; cases h
    right; simp; omega

theorem v0RdChecksum_len {c : V0Cfg} {d r : Bytes} {n : Nat} (h : v0RdChecksum c d = .ok (n, r)) :
    d.length = r.length + c.csz := by
  unfold v0RdChecksum at h
  unfold V0Cfg.csz
  by_cases hc : c.checksumVersion = 0
  · rw [if_pos hc] at h ⊢; exact rdU32_len h
  · rw [if_neg hc] at h ⊢; exact rdU8_len h

/-- 10 = source, destination, type/flags (at least one byte), session, signature (4), sequence id (2); the checksum
    is not counted because in the negative-length corner it overlaps these bytes -/
theorem v0DecodeOne_progress {c : V0Cfg} {d r : Bytes} {p : Packet} (h : v0DecodeOne c d = .ok (p, r)) :
    r.length + 10 ≤ d.length := by
  unfold v0DecodeOne at h
  -- one line per read: in the error branch `h` equates `error` with `ok`, which `reduceCtorEq` refutes
  rcases a1 : rdU8 d with e | ⟨source, r1⟩ <;> simp only [a1, reduceCtorEq] at h
  rcases a2 : rdU8 r1 with e | ⟨dest, r2⟩ <;> simp only [a2, reduceCtorEq] at h
  rcases a3 : v0RdTypeFlags c r2 with e | ⟨flags, type, r3⟩ <;> simp only [a3, reduceCtorEq] at h
  rcases a4 : rdU8 r3 with e | ⟨session, r4⟩ <;> simp only [a4, reduceCtorEq] at h
  rcases a5 : rd 4 r4 with e | ⟨sig, r5⟩ <;> simp only [a5, reduceCtorEq] at h
  rcases a6 : rdU16 r5 with e | ⟨pid, r6⟩ <;> simp only [a6, reduceCtorEq] at h
  rcases a7 : v0RdOptions type r6 with e | ⟨cs, frag, r7⟩ <;> simp only [a7, reduceCtorEq] at h
  rcases a8 : v0RdPayload c flags d r7 with e | ⟨payload, ckdata, r8⟩ <;> simp only [a8, reduceCtorEq] at h
  rcases a9 : v0RdChecksum c r8 with e | ⟨ck, r9⟩ <;> simp only [a9, reduceCtorEq] at h
  obtain ⟨-, h⟩ := of_ite_error h
  cases h
  have := rdU8_len a1; have := rdU8_len a2; have := v0RdTypeFlags_len a3; have := rdU8_len a4
  have := rd_len a5; have := rdU16_len a6; have := v0RdOptions_len a7; have := v0RdPayload_len a8
  have := v0RdChecksum_len a9
  omega

theorem V0WF_setSig (c : V0Cfg) (p : Packet) (s : Bytes) (h : V0WF c p) (hs : s.length = 4) :
    V0WF c { p with signature := some s } := by
  obtain ⟨h1, h2, h3, h4, h5, h6, h7, h8, -, h10, h11, h12, h13, h14, h15, h16, h17⟩ := h
  exact ⟨h1, h2, h3, h4, h5, h6, h7, h8, by simp [optLen, hs], h10, h11, h12, h13, h14, h15, h16, h17⟩

end Nx.Prudp
