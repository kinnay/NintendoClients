import NxModel.Api.Inventory
/-!
# C20 — lifting lemmas for the generated API-inventory obligations

The generated files prove `coversM documented actual = true` and `namesAgreeM documented actual = true` (the linear
pass) by kernel evaluation; the lemmas here lift them to `covers` / `namesAgree` and turn those Booleans into the
quantified statements, once and for all tables.
-/
namespace Nx.Api

theorem nameEq_iff (a b : Name) : nameEq a b = true ↔ a = b := by
  induction a generalizing b with
  | nil => cases b <;> simp [nameEq]
  | cons x xs ih =>
    cases b with
    | nil => simp [nameEq]
    | cons y ys => simp [nameEq, ih]

theorem sameKey_iff (d a : Sig) :
    sameKey d a = true ↔ a.module = d.module ∧ a.cls = d.cls ∧ a.name = d.name := by
  simp only [sameKey, Bool.and_eq_true, nameEq_iff]
  constructor
  · rintro ⟨⟨h1, h2⟩, h3⟩; exact ⟨h3.symm, h2.symm, h1.symm⟩
  · rintro ⟨h1, h2, h3⟩; exact ⟨⟨h3.symm, h2.symm⟩, h1.symm⟩

theorem sigMatches_iff (d a : Sig) :
    sigMatches d a = true ↔
      a.module = d.module ∧ a.cls = d.cls ∧ a.name = d.name ∧ a.kind = d.kind ∧ (d.kind = kindClass ∨ callOk d a = true) := by
  simp only [sigMatches, Bool.and_eq_true, Bool.or_eq_true, Nat.beq_eq, sameKey_iff, and_assoc, eq_comm (b := a.kind)]

/-! Both obligations have the form "every `d` has an `a` with `p d a`", and both failing-input searches look for the first
`d` without one: the three facts about that form, for any `p`. -/
section AllAny
variable {α β : Type} (p : α → β → Bool)

theorem all_any_iff (D : List α) (A : List β) :
    (D.all fun d => A.any (p d)) = true ↔ ∀ d ∈ D, ∃ a ∈ A, p d a = true := by
  simp [List.all_eq_true, List.any_eq_true]

theorem find?_not_any_eq_none_iff (D : List α) (A : List β) :
    D.find? (fun d => !A.any (p d)) = none ↔ (D.all fun d => A.any (p d)) = true := by
  simp [List.find?_eq_none, List.all_eq_true]

theorem find?_not_any_eq_some {D : List α} {A : List β} {d : α} (h : D.find? (fun d => !A.any (p d)) = some d) :
    d ∈ D ∧ ∀ a ∈ A, p d a = false := by
  refine ⟨List.mem_of_find?_eq_some h, fun a ha => ?_⟩
  have := List.find?_some h
  simp only [Bool.not_eq_true', List.any_eq_false] at this
  simpa using this a ha

/-- … and what such an obligation means once `p` has been read as a proposition `Q` -/
theorem all_any_spec {Q : α → β → Prop} (hp : ∀ d a, p d a = true → Q d a) {D : List α} {A : List β}
    (h : (D.all fun d => A.any (p d)) = true) : ∀ d ∈ D, ∃ a ∈ A, Q d a := fun d hd =>
  let ⟨a, ha, hm⟩ := (all_any_iff p D A).mp h d hd
  ⟨a, ha, hp d a hm⟩

end AllAny

/-- lifting lemma for the generated obligation `covers_ok` -/
theorem covers_sound {D : List Sig} {A : List ASig} (h : covers D A = true) :
    ∀ d ∈ D, ∃ a ∈ A, sigMatches d a = true := (all_any_iff sigMatches D A).mp h

/-- what the generated obligation `covers_ok` means (statement used by the generated files): every documented entry exists
under its module / class / name with the documented kind, and (unless it is a class entry) accepts the documented call shape -/
def CoversSpec (D : List Sig) (A : List ASig) : Prop :=
  ∀ d ∈ D, ∃ a ∈ A, a.module = d.module ∧ a.cls = d.cls ∧ a.name = d.name ∧ a.kind = d.kind ∧
    (d.kind = kindClass ∨ callOk d a = true)

theorem covers_spec {D : List Sig} {A : List ASig} (h : covers D A = true) : CoversSpec D A :=
  all_any_spec sigMatches (fun d a => (sigMatches_iff d a).mp) h

theorem namesOk_iff (ds as : List Name) (va : Bool) :
    namesOk ds as va = true ↔ ds.take as.length = as.take ds.length ∧ (ds.length ≤ as.length ∨ va = true) := by
  induction ds generalizing as with
  | nil => simp [namesOk]
  | cons d ds ih =>
    cases as with
    | nil => simp [namesOk]
    | cons a as =>
      simp only [namesOk, Bool.and_eq_true, nameEq_iff, ih, List.length_cons, List.take_succ_cons,
        List.cons.injEq, Nat.add_le_add_iff_right]
      constructor
      · rintro ⟨h1, h2, h3⟩; exact ⟨⟨h1, h2⟩, h3⟩
      · rintro ⟨⟨h1, h2⟩, h3⟩; exact ⟨h1, h2, h3⟩

theorem namesMatch_iff (d a : Sig) :
    namesMatch d a = true ↔
      a.module = d.module ∧ a.cls = d.cls ∧ a.name = d.name ∧
      (posNames d).take (posNames a).length = (posNames a).take (posNames d).length ∧
      ((posNames d).length ≤ (posNames a).length ∨ a.varArgs = true) := by
  simp only [namesMatch, Bool.and_eq_true, sameKey_iff, namesOk_iff, and_assoc]

/-- what the generated obligation `names_ok` means: position by position the documented positional parameter names are
the code's (documented parameters beyond the code's named ones exist only under `*args`) -/
def NamesSpec (D : List Sig) (A : List ASig) : Prop :=
  ∀ d ∈ D, ∃ a ∈ A, a.module = d.module ∧ a.cls = d.cls ∧ a.name = d.name ∧
    (posNames d).take (posNames a).length = (posNames a).take (posNames d).length ∧
    ((posNames d).length ≤ (posNames a).length ∨ a.varArgs = true)

theorem names_spec {D : List Sig} {A : List ASig} (h : namesAgree D A = true) : NamesSpec D A :=
  all_any_spec namesMatch (fun d a => (namesMatch_iff d a).mp) h

/-- when the code has no `*args`, that is: the documented names are exactly the first names of the code -/
theorem namesAgree_sound_prefix {D : List Sig} {A : List ASig} (h : namesAgree D A = true) :
    ∀ d ∈ D, ∃ a ∈ A, a.module = d.module ∧ a.cls = d.cls ∧ a.name = d.name ∧
      (a.varArgs = false → posNames d = (posNames a).take (posNames d).length) := by
  refine all_any_spec namesMatch (fun d a hm => ?_) h
  obtain ⟨h1, h2, h3, h4, h5⟩ := (namesMatch_iff d a).mp hm
  refine ⟨h1, h2, h3, fun hva => ?_⟩
  rw [← h4, List.take_of_length_le (h5.resolve_right (by simp [hva]))]

/-- the linear pass implies the quadratic statement, whatever the order of the tables -/
theorem mergeAll_sound (p : Sig → ASig → Bool) (n : Nat) (D : List Sig) (A : List ASig)
    (h : mergeAll p n D A = true) : ∀ d ∈ D, ∃ a ∈ A, p d a = true := by
  fun_induction mergeAll p n D A with
  | case1 => intro d hd; cases hd
  | case2 => cases h
  | case3 => cases h
  | case4 n d ds a as hp ih =>
    intro x hx
    rcases List.mem_cons.mp hx with rfl | hx
    · exact ⟨a, List.mem_cons_self, hp⟩
    · exact ih h x hx
  | case5 n d ds a as hp ih =>
    intro x hx
    obtain ⟨b, hb, hpb⟩ := ih h x hx
    exact ⟨b, List.mem_cons_of_mem _ hb, hpb⟩

/-- lifting lemma for the kernel obligation `covers_m` of the generated files -/
theorem coversM_covers {D : List Sig} {A : List ASig} (h : coversM D A = true) : covers D A = true :=
  (all_any_iff sigMatches D A).mpr (mergeAll_sound _ _ D A h)

/-- lifting lemma for the kernel obligation `names_m` of the generated files -/
theorem namesAgreeM_namesAgree {D : List Sig} {A : List ASig} (h : namesAgreeM D A = true) : namesAgree D A = true :=
  (all_any_iff namesMatch D A).mpr (mergeAll_sound _ _ D A h)

theorem firstUncovered_none_iff (D : List Sig) (A : List ASig) :
    firstUncovered D A = none ↔ covers D A = true := find?_not_any_eq_none_iff sigMatches D A

theorem firstUncovered_some {D : List Sig} {A : List ASig} {d : Sig} (h : firstUncovered D A = some d) :
    d ∈ D ∧ ∀ a ∈ A, sigMatches d a = false := find?_not_any_eq_some sigMatches h

theorem firstNameMismatch_none_iff (D : List Sig) (A : List ASig) :
    firstNameMismatch D A = none ↔ namesAgree D A = true := find?_not_any_eq_none_iff namesMatch D A

theorem firstNameMismatch_some {D : List Sig} {A : List ASig} {d : Sig} (h : firstNameMismatch D A = some d) :
    d ∈ D ∧ ∀ a ∈ A, namesMatch d a = false := find?_not_any_eq_some namesMatch h

theorem admitsPos_zero (ps : List Param) (va : Bool) (kws : List Name) :
    admitsPos ps va kws 0 = ps.all (fun p => p.hasDefault || kws.any (nameEq p.name)) := by
  simp [admitsPos]

theorem admitsPos_succ_cons (p : Param) (ps : List Param) (va : Bool) (kws : List Name) (k : Nat) :
    admitsPos (p :: ps) va kws (k + 1) = admitsPos ps va kws k := by
  simp [admitsPos]

/-- `posOk` against the specification of Python's argument binding: every positional call shape the
*documented* parameter list admits (k positional arguments, the rest of the documented positional parameters
defaulted) is admitted by the actual one when the documented keyword names `kws` are passed along. -/
theorem posOk_admits (ds as : List Param) (va : Bool) (kws : List Name) (k : Nat)
    (h : posOk ds as va kws = true) (hd : admitsPos ds false [] k = true) :
    admitsPos as va kws k = true := by
  induction ds generalizing as k with
  | nil =>
    obtain rfl : k = 0 := by simpa [admitsPos] using hd
    exact h
  | cons d ds ih =>
    cases as with
    | nil => simp [admitsPos, show va = true from h]
    | cons a as =>
      simp only [posOk, Bool.and_eq_true, Bool.or_eq_true, Bool.not_eq_true'] at h
      cases k with
      | succ k => rw [admitsPos_succ_cons] at hd ⊢; exact ih as k h.2 hd
      | zero =>
        -- no argument given: every documented parameter has a default, so the code's have one position by position
        rw [admitsPos_zero] at hd ⊢
        simp only [List.all_cons, Bool.and_eq_true, Bool.or_eq_true, List.any_nil, Bool.or_false] at hd ⊢
        have := ih as 0 h.2 (by rw [admitsPos_zero]; simpa using hd.2)
        exact ⟨Or.inl (h.1.resolve_left (by simp [hd.1])), this⟩

/-! ## The checker on the interesting cases -/

private def m : Name := [109]                 -- "m"
private def C : Name := [67]                  -- "C"
private def f : Name := [102]                 -- "f"
private def g : Name := [103]                 -- "g"
private def x : Name := [120]
private def y : Name := [121]
private def z : Name := [122]
private def P (n : Name) (dflt : Bool := false) (kw : Bool := false) : Param := ⟨n, dflt, kw⟩
private def S (kind : Nat) (name : Name) (ps : List Param) (va := false) (vk := false) (onc := false) : Sig :=
  ⟨m, C, kind, name, onc, ps, va, vk⟩

-- identical signature
example : sigMatches (S kindDef f [P x, P y true]) (S kindDef f [P x, P y true]) = true := by decide
-- harmless: the code gained a new optional parameter at the end / a keyword-only optional one
example : sigMatches (S kindDef f [P x]) (S kindDef f [P x, P y true]) = true := by decide
example : sigMatches (S kindDef f [P x]) (S kindDef f [P x, P y true true]) = true := by decide
-- the code's parameter lost its default (documented `y = …`): rejected
example : sigMatches (S kindDef f [P x, P y true]) (S kindDef f [P x, P y]) = false := by decide
-- the code gained a default the documentation does not mention: still callable as documented
example : sigMatches (S kindDef f [P x, P y]) (S kindDef f [P x, P y true]) = true := by decide
-- a new *required* parameter: rejected
example : sigMatches (S kindDef f [P x]) (S kindDef f [P x, P y]) = false := by decide
-- fewer parameters in the code: rejected, unless `*args`
example : sigMatches (S kindDef f [P x, P y]) (S kindDef f [P x]) = false := by decide
example : sigMatches (S kindDef f [P x, P y]) (S kindDef f [P x] (va := true)) = true := by decide
-- async mismatch, both directions; `async with` is neither
example : sigMatches (S kindAsyncDef f [P x]) (S kindDef f [P x]) = false := by decide
example : sigMatches (S kindDef f [P x]) (S kindAsyncDef f [P x]) = false := by decide
example : sigMatches (S kindAsyncWith f [P x]) (S kindAsyncDef f [P x]) = false := by decide
-- renamed method: nothing under the documented name
example : covers [S kindDef f [P x]] [S kindDef g [P x]] = false := by decide
example : firstUncovered [S kindDef g [], S kindDef f [P x]] [S kindDef g []] = some (S kindDef f [P x]) := by decide
-- a property is not callable as a documented `def`
example : sigMatches (S kindDef f []) (S kindProperty f []) = false := by decide
-- documented `@classmethod`, defined as a plain method: rejected; static vs class method: accepted
example : sigMatches (S kindDef f [P x] (onc := true)) (S kindDef f [P x]) = false := by decide
example : sigMatches (S kindDef f [P x] (onc := true)) (S kindDef f [P x] (onc := true)) = true := by decide
-- keyword-only: must exist by name (or `**kwargs`); may have become positional-or-keyword
example : sigMatches (S kindDef f [P x, P y true true]) (S kindDef f [P x, P y true true]) = true := by decide
example : sigMatches (S kindDef f [P x, P y true true]) (S kindDef f [P x, P z true true]) = false := by decide
example : sigMatches (S kindDef f [P x, P y true true]) (S kindDef f [P x] (vk := true)) = true := by decide
example : sigMatches (S kindDef f [P x, P y true true]) (S kindDef f [P x, P y true]) = true := by decide
example : sigMatches (S kindDef f [P x, P y false true]) (S kindDef f [P x, P y]) = true := by decide
-- an undocumented required keyword-only parameter: rejected
example : sigMatches (S kindDef f [P x]) (S kindDef f [P x, P y false true]) = false := by decide
-- overloads documented twice are satisfied by one callable
example : covers [S kindDef f [P x true], S kindDef f [P x true]] [S kindDef f [P x true]] = true := by decide
-- positional compatibility does not look at names; `namesAgree` does
example : sigMatches (S kindDef f [P x]) (S kindDef f [P y]) = true := by decide
example : namesAgree [S kindDef f [P x]] [S kindDef f [P y]] = false := by decide
example : namesAgree [S kindDef f [P x]] [S kindDef f [P x, P y true]] = true := by decide
-- a stub taking `*args` has no names to disagree with
example : namesAgree [S kindDef f [P x, P y]] [S kindDef f [] (va := true)] = true := by decide
example : namesAgree [S kindDef f [P x, P y]] [S kindDef f [P x]] = false := by decide
-- class entries only need the class
example : sigMatches ⟨m, [], kindClass, C, false, [], false, false⟩ ⟨m, [], kindClass, C, false, [P x], false, false⟩ = true := by decide
example : sigMatches ⟨m, [], kindClass, C, false, [], false, false⟩ ⟨m, [], kindDef, C, false, [], false, false⟩ = false := by decide
-- the binding specification at a non-trivial point: documented (x, y=…) admits 1 or 2 positional arguments, not 0 or 3
example : (List.range 4).map (admitsPos [P x, P y true] false []) = [false, true, true, false] := by decide

-- the linear pass on sorted tables: overloads share the actual entry; an unmatched entry makes it fail
example : coversM [S kindDef f [P x true], S kindDef f [P x true], S kindDef g []]
    [S kindDef f [P x true], S kindDef g [], S kindDef x []] = true := by decide
example : coversM [S kindDef f [P x], S kindDef g []] [S kindDef g [], S kindDef x []] = false := by decide

end Nx.Api
