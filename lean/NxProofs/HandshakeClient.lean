import NxProofs.HandshakeServer
import NxProofs.Timers
/-!
# C01 — the client's half of `Established`

What `handshake()`, `process_syn` and `process_connect` leave in the client object: the receiver role and the ciphers are never
touched by the handshake (`HsFresh` is kept by every `handle` of a SYN or CONNECT packet and by sending one), and the send
counter of substream 0 moves from 1 to 2 exactly when the SYN/ACK is accepted and the CONNECT goes out.
-/
namespace Nx.L1
open Nx.Prudp Nx.Chan

variable {ks : List Bytes} {on : Bool}

/-- the fields of the receiver role and the ciphers, as `Conn.new` (+ `login`) leaves them, on a live link -/
structure HsFresh (c : Conn) (n : Nat) (ks : List Bytes) (on : Bool) : Prop where
  win : c.windows = List.replicate n { next := 1, packets := [] }
  q : c.queues = List.replicate n []
  fb : c.fragBufs = List.replicate n []
  eof : c.eof = false
  link : c.linkUp = true
  keys : ks.length = n ∧ c.relCiphers = ks.map (fun k => { key := k })
  con : c.cipherOn = on
  only : ∀ p ∈ resendsOf c, p.type = TYPE_SYN ∨ p.type = TYPE_CONNECT

/- `{ h with … }` below: a field of `HsFresh` about a field of `Conn` the step does not write is definitionally what it was -/
theorem arm_hsFresh (c : Conn) (n : Nat) (now : Time) (p : Packet) (k : Nat) (h : HsFresh c n ks on)
    (hp : p.type = TYPE_SYN ∨ p.type = TYPE_CONNECT) : HsFresh (c.arm now p k) n ks on := by
  have hr := arm_resFr c now p k
  unfold Conn.arm at hr ⊢
  cases hs : c.sched with
  | none => exact h
  | some s =>
    rw [hs] at hr
    exact { h with only := fun q hq => (hr q hq).elim (h.only q) fun hq => by rw [List.mem_singleton.mp hq]; exact hp }

theorem transmit_hs (env : Env) (now : Time) (c : Conn) (n : Nat) (q : Packet) (h : HsFresh c n ks on)
    (hq : q.type = TYPE_SYN ∨ q.type = TYPE_CONNECT) :
    HsFresh (c.transmit env now q).c n ks on ∧ (c.transmit env now q).c.state = c.state ∧ (c.transmit env now q).c.counters = c.counters := by
  rcases transmit_cases env now c q with ⟨hl, _⟩ | ⟨_, e⟩ | ⟨_, e⟩
  · rw [h.link] at hl; cases hl
  · rw [e]; exact ⟨h, rfl, rfl⟩
  · rw [e]
    split
    · exact ⟨arm_hsFresh c n now q 0 h hq, by unfold Conn.arm; cases c.sched <;> exact ⟨rfl, rfl⟩⟩
    · exact ⟨h, rfl, rfl⟩

/-- the acknowledgement bookkeeping at the end of `handle` only cancels a timer -/
theorem bind_acked_hs (r : R) (n : Nat) (p : Packet) (h : HsFresh r.c n ks on) :
    HsFresh (r.bind fun c => R.ok (c.acked p)).c n ks on ∧ (r.bind fun c => R.ok (c.acked p)).c.state = r.c.state ∧
      (r.bind fun c => R.ok (c.acked p)).c.counters = r.c.counters := by
  rw [R.bind_ok_map]
  split
  · rcases acked_cases r.c p with e | ⟨hd, _, _, e⟩
    · rw [e]; exact ⟨h, rfl, rfl⟩
    · rw [e]; exact ⟨{ h with only := fun q hq => h.only q (resSub_cancel r.c _ [hd] q hq) }, rfl, rfl⟩
  · exact ⟨h, rfl, rfl⟩

theorem sendConnect_hs (env : Env) (now : Time) (c : Conn) (n : Nat) (h : HsFresh c n ks on) :
    HsFresh (c.sendConnect env now).c n ks on ∧ (c.sendConnect env now).c.state = c.state ∧
    ∀ k, c.counters[0]? = some k → (c.sendConnect env now).c.counters = setAt c.counters 0 (seqNext k) := by
  obtain ⟨q, hq, e⟩ := sendConnect_eq env now c
  rw [e]
  cases hk : c.counters[0]? with
  | none => exact ⟨h, rfl, fun k hk' => by cases hk'⟩
  | some k =>
    obtain ⟨f, s, e⟩ := transmit_hs env now { c with counters := setAt c.counters 0 (seqNext k) } n (q k)
      { h with } (Or.inr (hq k))
    exact ⟨f, s, fun k' hk' => by cases hk'; exact e⟩

theorem processSyn_hs (env : Env) (now : Time) (c : Conn) (n : Nat) (p : Packet) (h : HsFresh c n ks on) :
    HsFresh (c.processSyn env now p).c n ks on ∧
    ((c.processSyn env now p).c = c ∨
     ((c.processSyn env now p).c.state = STATE_CONNECTED ∧
        ∀ k, c.counters[0]? = some k → (c.processSyn env now p).c.counters = setAt c.counters 0 (seqNext k))) := by
  by_cases hv : c.synValid env p
  · rw [Conn.processSyn_valid env now c p hv]
    split
    · obtain ⟨f, s, k⟩ := sendConnect_hs env now (c.adopt p) n { h with }
      exact ⟨f, Or.inr ⟨s, k⟩⟩
    · exact ⟨h, Or.inl rfl⟩
  · rw [Conn.processSyn_invalid env now c p hv]; exact ⟨h, Or.inl rfl⟩

theorem handle_syn_hs (env : Env) (now : Time) (c : Conn) (n : Nat) (p : Packet) (h : HsFresh c n ks on) (hp : p.type = TYPE_SYN)
    (hst : c.state = STATE_CONNECTING) :
    HsFresh (c.handle env now p).c n ks on ∧
    (((c.handle env now p).c.state = STATE_CONNECTING ∧ (c.handle env now p).c.counters = c.counters) ∨
     ((c.handle env now p).c.state = STATE_CONNECTED ∧
        ∀ k, c.counters[0]? = some k → (c.handle env now p).c.counters = setAt c.counters 0 (seqNext k))) := by
  rw [handle_syn env now c p hp (by rw [hst]; decide)]
  obtain ⟨f, e⟩ := processSyn_hs env now c n p h
  obtain ⟨f', s, k⟩ := bind_acked_hs _ n p f
  rw [s, k]
  exact ⟨f', e.imp (fun e => by rw [e]; exact ⟨hst, rfl⟩) id⟩

theorem handle_connect_hs (env : Env) (now : Time) (c : Conn) (n : Nat) (p : Packet) (h : HsFresh c n ks on) (hp : p.type = TYPE_CONNECT) :
    HsFresh (c.handle env now p).c n ks on ∧ (c.handle env now p).c.state = c.state ∧ (c.handle env now p).c.counters = c.counters := by
  rcases handle_connect env now c p hp with hh | hh
  · rw [hh.1]; exact ⟨h, rfl, rfl⟩
  rw [hh]
  have hpc : HsFresh (c.processConnect env p).c n ks on ∧ (c.processConnect env p).c.state = c.state ∧
      (c.processConnect env p).c.counters = c.counters := by
    by_cases hv : c.connectValid env p
    · rw [Conn.processConnect_valid env c p hv]
      split
      · split
        · exact ⟨h, rfl, rfl⟩
        · exact ⟨{ h with }, rfl, rfl⟩
      · exact ⟨h, rfl, rfl⟩
    · rw [Conn.processConnect_invalid env c p hv]; exact ⟨h, rfl, rfl⟩
  obtain ⟨f, s, k⟩ := bind_acked_hs _ n p hpc.1
  exact ⟨f, s.trans hpc.2.1, k.trans hpc.2.2⟩

theorem resume_hs (now : Time) (c : Conn) (n : Nat) (h : HsFresh c n ks on) :
    HsFresh (c.resumeHandshake now).c n ks on ∧ (c.resumeHandshake now).c.state = c.state ∧ (c.resumeHandshake now).c.counters = c.counters := by
  unfold Conn.resumeHandshake
  by_cases h1 : c.waitingHandshake = true ∧ c.handshakeEvent = true
  · rw [if_pos h1]
    by_cases h2 : c.state = STATE_CONNECTED
    · rw [if_pos h2]
      cases hs : c.sched with
      | none => exact ⟨{ h with only := fun _ hq => by cases hq }, rfl, rfl⟩
      | some s =>
        refine ⟨{ h with only := fun q hq => h.only q ?_ }, rfl, rfl⟩
        -- the keep-alive timer that is appended carries no packet
        simpa [resendsOf, hs, Sched.repeat, actPacket, R.ok] using hq
    · rw [if_neg h2]; exact ⟨{ h with }, rfl, rfl⟩
  · rw [if_neg h1]; exact ⟨h, rfl, rfl⟩

theorem handshake_start_hs (env : Env) (version : Option Nat) (u chk sid : Nat) (la : Addr) (lp lt : Nat) (ra : Addr) (rp rt : Nat)
    (t0 : Time) (creds : Option Creds) :
    let c1 := ((Conn.new env version u chk sid la lp lt ra rp rt).handshake env t0 creds).c
    HsFresh c1 (env.s.maxSubstreamId + 1) (clientKeys env creds) (env.s.transport == TRANSPORT_UDP) ∧ c1.state = STATE_CONNECTING ∧
      c1.counters = List.replicate (env.s.maxSubstreamId + 1) 1 := by
  have base : ∀ c' : Conn, HsFresh c' (env.s.maxSubstreamId + 1) (clientKeys env creds) (env.s.transport == TRANSPORT_UDP) →
      c'.state = STATE_CONNECTING → c'.counters = List.replicate (env.s.maxSubstreamId + 1) 1 →
      HsFresh (c'.sendSyn env t0).c (env.s.maxSubstreamId + 1) (clientKeys env creds) (env.s.transport == TRANSPORT_UDP) ∧
      (c'.sendSyn env t0).c.state = STATE_CONNECTING ∧ (c'.sendSyn env t0).c.counters = List.replicate (env.s.maxSubstreamId + 1) 1 :=
    fun c' h0 hst hc => by
      obtain ⟨q, hq, e⟩ := sendSyn_eq env t0 c'
      rw [e]
      exact (transmit_hs env t0 c' _ q h0 (Or.inl (congrArg Prod.fst hq))).imp id (.imp (·.trans hst) (·.trans hc))
  cases creds with
  | none => exact base _ ⟨rfl, rfl, rfl, rfl, rfl, ⟨by simp [clientKeys], by simp [clientKeys, Conn.new]⟩, rfl, fun _ hp => by cases hp⟩ rfl rfl
  | some cr =>
    exact base _ ⟨rfl, rfl, rfl, rfl, rfl, ⟨keyChain_length _ _, by simp [clientKeys, Conn.login, Conn.new]⟩, rfl, fun _ hp => by cases hp⟩ rfl rfl

theorem clientReady_of_fresh {c : Conn} {n : Nat} {ks : List Bytes} {on : Bool} (f : HsFresh c n ks on)
    (hk : c.counters = setAt (List.replicate n 1) 0 2) (sub : Nat) (hn : sub < n) : ClientReady c sub := by
  obtain ⟨w, q, fb, enc, dec⟩ := fresh_at hn f.win f.q f.fb f.keys
  refine ⟨hk ▸ setAt_replicate 0 1 2 hn, w, q, fb, ⟨f.eof, f.link⟩, enc, dec, fun p hp => ?_⟩
  rcases f.only p hp with h1 | h1 <;> simp [relevant, h1]

/-- **the client's half of `Established`, for every configuration**: a new client object, `handshake()`, a SYN packet handled, a
    CONNECT packet handled, the parked `handshake()` resumed — if the client is CONNECTED after that, it is `ClientReady` on every
    substream the settings allow (whatever the environment, the addresses and ports, the random draws, the credentials, the two
    packets and the instants) -/
theorem client_half_established (env : Env) (version : Option Nat) (u chk sid : Nat) (la : Addr) (lp lt : Nat) (ra : Addr) (rp rt : Nat)
    (t0 t1 t2 t3 : Time) (creds : Option Creds) (synAck conAck : Packet) (hs : synAck.type = TYPE_SYN) (hc : conAck.type = TYPE_CONNECT)
    (sub : Nat) (hsub : sub ≤ env.s.maxSubstreamId) :
    let c1 := ((Conn.new env version u chk sid la lp lt ra rp rt).handshake env t0 creds).c
    let c2 := (c1.handle env t1 synAck).c
    let c3 := (c2.handle env t2 conAck).c
    let c4 := (c3.resumeHandshake t3).c
    c4.state = STATE_CONNECTED →
      ClientReady c4 sub ∧ c4.relCiphers = (clientKeys env creds).map (fun k => { key := k }) ∧
      c4.cipherOn = (env.s.transport == TRANSPORT_UDP) := by
  intro c1 c2 c3 c4 hconn
  have hn : sub < env.s.maxSubstreamId + 1 := by omega
  obtain ⟨f1, s1, k1⟩ := handshake_start_hs env version u chk sid la lp lt ra rp rt t0 creds
  obtain ⟨f2, e2⟩ := handle_syn_hs env t1 c1 _ synAck f1 hs s1
  obtain ⟨f3, s3, k3⟩ := handle_connect_hs env t2 c2 _ conAck f2 hc
  obtain ⟨f4, s4, k4⟩ := resume_hs t3 c3 _ f3
  have hst2 : c2.state = STATE_CONNECTED := by rw [← s3, ← s4]; exact hconn
  have hk2 : c2.counters = setAt (List.replicate (env.s.maxSubstreamId + 1) 1) 0 2 := by
    rcases e2 with ⟨h1, _⟩ | ⟨_, h2⟩
    · rw [hst2] at h1; exact absurd h1 (by decide)
    · have := h2 1 (by rw [k1]; exact List.getElem?_replicate_of_lt (by omega))
      rw [this, k1]; rfl
  exact ⟨clientReady_of_fresh f4 (by rw [k4, k3, hk2]) sub hn, f4.keys.2, f4.con⟩

end Nx.L1
