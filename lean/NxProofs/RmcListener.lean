import NxModel.Nex.RmcListener
import NxProofs.RmcServer
import NxProofs.Assoc
/-! proofs about the listener model: the table of a connection depends on the listener's list and on that
    connection's own registrations only -/
namespace Nx.RmcListener
open Nx.Rmc Nx.RmcServer

theorem tableOf_setTable (c d : Nat) (t : List Server) (l : List (Nat × List Server)) :
    tableOf d (setTable c t l) = if d = c then (tableOf c l).map fun _ => t else tableOf d l := by
  induction l with
  | nil => simp [setTable, tableOf]
  | cons x r ih =>
    by_cases hx : x.1 = c
    · simp only [setTable, tableOf, if_pos hx]
      by_cases hd : d = c
      · simp [hd, hx]
      · simp [hd, hx ▸ Ne.symm hd]
    · simp only [setTable, tableOf, if_neg hx, ih]
      by_cases hd : d = c
      · simp [hd, hx]
      · simp [hd]

theorem tableOf_eq : tableOf = alookup := eq_alookup rfl rfl

theorem dropConn_eq : dropConn = aerase := eq_aerase rfl rfl

theorem tableOf_dropConn_self (c : Nat) (l : List (Nat × List Server)) : tableOf c (dropConn c l) = none := by
  rw [tableOf_eq, dropConn_eq, alookup_aerase_self]

theorem tableOf_dropConn_ne {c d : Nat} (h : d ≠ c) (l : List (Nat × List Server)) :
    tableOf d (dropConn c l) = tableOf d l := by
  rw [tableOf_eq, dropConn_eq, alookup_aerase_ne h]

theorem step_servers (l : Listener) (e : Ev) : (step l e).1.servers = l.servers := by
  cases e with
  | accept c => rfl
  | close c => rfl
  | register c s =>
    cases hq : tableOf c l.conns with
    | none => simp only [step, hq]
    | some t => cases hr : register t s <;> simp only [step, hq, hr]
  | request c req h =>
    cases hq : tableOf c l.conns <;> simp only [step, hq]

theorem step_other (l : Listener) (e : Ev) (d : Nat) (h : d ≠ e.conn) :
    tableOf d (step l e).1.conns = tableOf d l.conns := by
  cases e with
  | accept c =>
    have : ¬ c = d := fun q => h q.symm
    simp only [step, tableOf, this, if_false]
    exact tableOf_dropConn_ne h _
  | close c => exact tableOf_dropConn_ne h _
  | register c s =>
    cases hq : tableOf c l.conns with
    | none => simp only [step, hq]
    | some t =>
      cases hr : register t s with
      | none => simp only [step, hq, hr]
      | some t' => simp only [step, hq, hr]; exact (tableOf_setTable c d _ _).trans (if_neg h)
  | request c req hr =>
    cases hq : tableOf c l.conns <;> simp only [step, hq]

theorem run_servers (l : Listener) (evs : List Ev) : (run l evs).1.servers = l.servers := by
  induction evs generalizing l with
  | nil => rfl
  | cons e r ih => simp only [run]; rw [ih, step_servers]

theorem run_other (l : Listener) (evs : List Ev) (d : Nat) (h : ∀ e ∈ evs, d ≠ e.conn) :
    tableOf d (run l evs).1.conns = tableOf d l.conns := by
  induction evs generalizing l with
  | nil => rfl
  | cons e r ih =>
    simp only [run]
    rw [ih _ (fun x hx => h x (List.mem_cons_of_mem _ hx)), step_other l e d (h e List.mem_cons_self)]

theorem accept_fresh (l : Listener) (c : Nat) : tableOf c (step l (.accept c)).1.conns = some l.servers := by
  simp [step, tableOf]

theorem close_forgets (l : Listener) (c : Nat) : tableOf c (step l (.close c)).1.conns = none :=
  tableOf_dropConn_self c _

theorem request_not_here (l : Listener) (c : Nat) (t : List Server) (req : Msg) (m : Nat) (w : ReqWF req m)
    (ht : tableOf c l.conns = some t) (hp : findServer req.protocol t = none) (h : HandleResult) :
    step l (.request c req h) = (l, .reaction (.sends (specEncode (.failure req.protocol req.callId 0x80010002)))) := by
  have hr : regLookup req.protocol (registryOf t) = none := by rw [regLookup_registryOf, hp]; rfl
  simp only [step, ht, react_unregistered w hr h]

theorem register_ok (l : Listener) (c : Nat) (t : List Server) (s : Server)
    (ht : tableOf c l.conns = some t) (hp : findServer s.protocol t = none) :
    (step l (.register c s)).2 = .registered true ∧ tableOf c (step l (.register c s)).1.conns = some (s :: t) := by
  simp only [step, ht, register, hp, true_and]
  rw [tableOf_setTable, if_pos rfl, ht]; rfl

end Nx.RmcListener
