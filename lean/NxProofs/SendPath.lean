import NxProofs.Roles
/-!
# L1 — the send path of an endpoint: what `send`, `send_packet`, a keep-alive and `disconnect()` hand to the transport and what they
leave untouched; acknowledgements touch timers only
-/
namespace Nx.L1
open Nx.Prudp Nx.Chan

/-- `send` raises before doing anything (closed connection / invalid substream) -/
def sendRefused (c : Conn) (sub : Nat) : Bool := decide (c.state ≠ STATE_CONNECTED) || decide (sub > c.maxSub)

theorem connected_of_not_refused {c : Conn} {sub : Nat} (h : sendRefused c sub = false) : c.state = STATE_CONNECTED := by
  simp only [sendRefused, Bool.or_eq_false_iff, decide_eq_false_iff_not, ne_eq] at h
  exact Classical.not_not.mp h.1

theorem cleanup_frag (c : Conn) : c.cleanup.c.fragmentSize = c.fragmentSize := rfl

theorem send_refused (env : Env) (now : Time) (c : Conn) (data : Bytes) (sub : Nat) (h : sendRefused c sub = true) :
    (c.send env now data sub).c = c ∧ emitted (c.send env now data sub) = [] ∧ (c.send env now data sub).err.isNone = false := by
  unfold sendRefused at h
  simp only [Bool.or_eq_true, decide_eq_true_eq] at h
  unfold Conn.send
  by_cases h1 : c.state ≠ STATE_CONNECTED
  · rw [if_pos h1]; exact ⟨rfl, rfl, rfl⟩
  · rw [if_neg h1, if_pos (h.resolve_left h1)]; exact ⟨rfl, rfl, rfl⟩

/-- `send_ping()` decomposed: the id comes from substream 0's counter, nothing is encrypted, then `transmit` -/
theorem sendPing_eq (env : Env) (now : Time) (c : Conn) (n pos : Nat) (hs : SRel c 0 n pos) :
    ∃ (q : Packet) (c2 : Conn), c.sendPing env now = c2.transmit env now q ∧
      wireOf q = ⟨n, .ping, []⟩ ∧ q.substreamId = 0 ∧ hasReliable q.flags = true ∧ Ordinary q ∧
      SRel c2 0 (seqNext n) pos ∧ cipherOf c2 0 = cipherOf c 0 ∧ c2.linkUp = c.linkUp ∧ c2.fragmentSize = c.fragmentSize := by
  have ho : Ordinary (mkPacket TYPE_PING (FLAG_RELIABLE + FLAG_NEED_ACK)) := ctl_ordinary (by decide) (by decide)
  obtain ⟨q, c2, h1, h2, h3, hq, h4, h5, h6, -⟩ :=
    sendPacket_reliable_eq env now c _ ho (Or.inr rfl) (sub := 0) rfl (d := []) rfl (k := .ping) rfl n pos hs rfl
  exact ⟨q, c2, h1, h2, hq.1, (ordinary_of_fields q _ hq.2 ho).rel, ordinary_of_fields q _ hq.2 ho, h3, h4, h5, h6⟩

theorem disconnect_noop (env : Env) (now : Time) (c : Conn) (h : c.state ≠ STATE_CONNECTED) : (c.disconnect env now).c = c := by
  unfold Conn.disconnect; rw [if_pos h]; rfl

/-- `disconnect()` on a CONNECTED connection, decomposed: state DISCONNECTING, id from substream 0's counter, then `transmit` -/
theorem sendDisconnect_eq (env : Env) (now : Time) (c : Conn) (n pos : Nat) (hs : SRel c 0 n pos) (hst : c.state = STATE_CONNECTED) :
    ∃ (q : Packet) (c2 : Conn), c.disconnect env now = c2.transmit env now q ∧
      wireOf q = ⟨n, .disconnect, []⟩ ∧ q.substreamId = 0 ∧ hasReliable q.flags = true ∧ Ordinary q ∧
      SRel c2 0 (seqNext n) pos ∧ cipherOf c2 0 = cipherOf c 0 ∧ c2.linkUp = c.linkUp ∧ c2.fragmentSize = c.fragmentSize ∧
      c2.state = STATE_DISCONNECTING := by
  have ho : Ordinary (mkPacket TYPE_DISCONNECT (FLAG_RELIABLE + FLAG_NEED_ACK)) := ctl_ordinary (by decide) (by decide)
  obtain ⟨q, c2, h1, h2, h3, hq, h4, h5, h6, h7⟩ :=
    sendPacket_reliable_eq env now { c with state := STATE_DISCONNECTING } _ ho (Or.inr rfl) (sub := 0) rfl (d := []) rfl
      (k := .disconnect) rfl n pos ⟨hs.ctr, hs.ciph⟩ rfl
  refine ⟨q, c2, ?_, h2, hq.1, (ordinary_of_fields q _ hq.2 ho).rel, ordinary_of_fields q _ hq.2 ho, h3, h4, h5, h6, h7⟩
  rw [Conn.disconnect, if_neg (fun h => h hst)]; exact h1

/-- what handling an acknowledgement may change: nothing of the send path's data state -/
structure AckFr (c c' : Conn) : Prop where
  ctr : c'.counters = c.counters
  ciph : c'.relCiphers = c.relCiphers
  con : c'.cipherOn = c.cipherOn
  fs : c'.fragmentSize = c.fragmentSize
  st : StateFr c c'

theorem ackFr_refl (c : Conn) : AckFr c c := ⟨rfl, rfl, rfl, rfl, stateFr_refl c⟩

theorem ackFr_trans {a b c : Conn} (h1 : AckFr a b) (h2 : AckFr b c) : AckFr a c :=
  ⟨h2.ctr.trans h1.ctr, h2.ciph.trans h1.ciph, h2.con.trans h1.con, h2.fs.trans h1.fs, stateFr_trans h1.st h2.st⟩

theorem ackFr_cleanup (c : Conn) : AckFr c c.cleanup.c := ⟨rfl, rfl, rfl, rfl, Or.inr rfl⟩

theorem sendFr_of_ackFr {c c' : Conn} (h : AckFr c c') (sub : Nat) : SendFr c c' sub :=
  ⟨by rw [h.ctr], by rw [h.ciph], h.con, h.fs, h.st⟩

/-- `AckFr` survives everything but a write to the sender or receiver side of a substream or a handshake step -/
def AckFr.tol : Loc → Prop
  | .life | .arm _ | .cancel | .aux => True
  | _ => False

theorem AckFr.upd (u : Upd) (c : Conn) (h : AckFr.tol u.loc) : AckFr c (u.run c) := by
  cases u with
  | cleanup => exact ackFr_cleanup c
  | arm now p k => dsimp only [Upd.run]; unfold Conn.arm; cases c.sched <;> exact ⟨rfl, rfl, rfl, rfl, Or.inl rfl⟩
  | ack | acks | nextUnrel | nextPing | deliverU => exact ⟨rfl, rfl, rfl, rfl, Or.inl rfl⟩
  | _ => exact False.elim h

/-- **an acknowledgement changes nothing the data path depends on**: whatever packet with the ACK or MULTI_ACK flag (and not of
    the handshake types) is handed to `handle` — genuine, stale, coalesced into an aggregate ack, or forged — the sequence
    counters, the stream ciphers and the fragment size of the connection are what they were, and the state is what it was or
    DISCONNECTED (`handle_ack_steps` says the rest: nothing but retransmission timers is written, and `cleanup` runs only for
    an acknowledged DISCONNECT) -/
theorem handle_ack_ackFr (env : Env) (now : Time) (c : Conn) (p : Packet) (hack : (hasAck p.flags || hasMultiAck p.flags) = true)
    (hns : p.type ≠ TYPE_SYN) (hnc : p.type ≠ TYPE_CONNECT) : AckFr c (c.handle env now p).c :=
  (handle_ack_steps env now c p hack hns hnc).frame ackFr_refl ackFr_trans
    fun u c hu => AckFr.upd u c (by rcases hu with h | ⟨h, _⟩ <;> rw [h] <;> trivial)

end Nx.L1
