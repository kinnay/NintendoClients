/-! Nat bit-operation lemmas that turn Python's `|`, `&`, `^`, `<<` into arithmetic for `omega`; `x & (2 ^ i - 1)` and
`x >> i` are core's `Nat.and_two_pow_sub_one_eq_mod` and `Nat.shiftRight_eq_div_pow` -/
namespace Nx

theorem or_shiftLeft_of_lt {a : Nat} (i x : Nat) (h : a < 2 ^ i) : a ||| (x <<< i) = a + x * 2 ^ i := by
  have := Nat.two_pow_add_eq_or_of_lt h x
  rw [Nat.shiftLeft_eq, Nat.or_comm, Nat.mul_comm x, ← this, Nat.add_comm]

theorem two_pow_or_of_lt {b : Nat} (i : Nat) (h : b < 2 ^ i) : 2 ^ i ||| b = 2 ^ i + b := by
  rw [Nat.or_comm, Nat.or_two_pow_eq_add_of_lt h, Nat.add_comm]

theorem shiftLeft_xor_of_lt (hi : Nat) {lo k : Nat} (h : lo < 2 ^ k) : (hi <<< k) ^^^ lo = hi * 2 ^ k + lo := by
  rw [Nat.mul_comm]
  apply Nat.eq_of_testBit_eq; intro j
  rw [Nat.testBit_two_pow_mul_add _ h, Nat.testBit_xor]
  by_cases hj : j < k
  · simp [hj, Nat.not_le.mpr hj]
  · have : lo.testBit j = false :=
      Nat.testBit_lt_two_pow (Nat.lt_of_lt_of_le h (Nat.pow_le_pow_right (by decide) (Nat.not_lt.mp hj)))
    simp [hj, Nat.not_lt.mp hj, this]

/-- division with remainder; for `n = 2 ^ k`, the two halves of a field packed as `a | (b << k)` -/
theorem add_mul_div_mod {a n : Nat} (b : Nat) (h : a < n) : (a + b * n) / n = b ∧ (a + b * n) % n = a := by
  rw [Nat.add_mul_div_right _ _ (Nat.zero_lt_of_lt h), Nat.add_mul_mod_self_right, Nat.div_eq_of_lt h, Nat.mod_eq_of_lt h,
    Nat.zero_add]
  exact ⟨rfl, rfl⟩

theorem and_two_pow_eq (x k : Nat) : x &&& 2 ^ k = if x.testBit k then 2 ^ k else 0 := by
  apply Nat.eq_of_testBit_eq; intro i
  rw [Nat.testBit_and, Nat.testBit_two_pow]
  by_cases hi : k = i
  · subst hi; cases x.testBit k <;> simp
  · cases x.testBit k <;> simp [hi]

theorem and_two_pow (x k : Nat) : x &&& 2 ^ k = 2 ^ k * (x / 2 ^ k % 2) := by
  rw [and_two_pow_eq, Nat.testBit_eq_decide_div_mod_eq]
  rcases Nat.mod_two_eq_zero_or_one (x / 2 ^ k) with h | h <;> simp [h]

theorem or_and_self (c m : Nat) : (c ||| m) &&& m = m := by
  apply Nat.eq_of_testBit_eq
  intro i
  rw [Nat.testBit_and, Nat.testBit_or]
  cases c.testBit i <;> cases m.testBit i <;> rfl

example : (5 : Nat) ||| 128 = 133 := Nat.or_two_pow_eq_add_of_lt (n := 7) (by omega)

end Nx
