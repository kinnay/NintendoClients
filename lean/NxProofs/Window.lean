import NxModel.Prudp.Channel
import NxProofs.Assoc
/-! the sliding window releases exactly the log, in order, once each -/
namespace Nx.Chan

variable {α : Type}

def keys (l : List (Nat × α)) : List Nat := l.map Prod.fst

theorem lookup_eq : @lookup α = alookup := eq_alookup rfl rfl

/-- `del self.packets[k]` -/
theorem erase_eq : @erase α = aerase := eq_aerase rfl rfl

theorem mem_of_lookup {k : Nat} {v : α} {l : List (Nat × α)} (h : lookup k l = some v) : (k, v) ∈ l :=
  mem_of_alookup (lookup_eq ▸ h)

theorem lookup_none_iff {k : Nat} {l : List (Nat × α)} : lookup k l = none ↔ k ∉ keys l := by
  rw [lookup_eq, alookup_eq_none_iff, keys, List.mem_map]
  exact ⟨fun h ⟨x, hx, e⟩ => h x hx e, fun h x hx e => h ⟨x, hx, e⟩⟩

theorem lookup_of_mem {k : Nat} {v : α} {l : List (Nat × α)} (hnd : (keys l).Nodup) (h : (k, v) ∈ l) :
    lookup k l = some v :=
  lookup_eq ▸ alookup_of_mem hnd h

theorem mem_erase {k : Nat} {x : Nat × α} {l : List (Nat × α)} : x ∈ erase k l ↔ x ∈ l ∧ x.1 ≠ k :=
  erase_eq ▸ mem_aerase

theorem erase_length_lt {k : Nat} {l : List (Nat × α)} (h : k ∈ keys l) : (erase k l).length < l.length := by
  obtain ⟨x, hx, rfl⟩ := List.mem_map.mp h
  rw [erase_eq]
  exact List.length_filter_lt_length_iff_exists.mpr ⟨x, hx, by simp⟩

theorem nodup_erase {k : Nat} {l : List (Nat × α)} (h : (keys l).Nodup) : (keys (erase k l)).Nodup := by
  rw [erase_eq]
  exact (List.filter_sublist.map Prod.fst).nodup h

/-- the id of the `j`-th packet of a log whose first id is `start` -/
def idOf (start j : Nat) : Nat := (start + j) % 65536

theorem seqNext_idOf (start n : Nat) : seqNext (idOf start n) = idOf start (n + 1) := by
  unfold seqNext idOf; omega

theorem idOf_inj {start i j : Nat} (h : idOf start i = idOf start j) (h1 : i < j + 65536) (h2 : j < i + 65536) : i = j := by
  unfold idOf at h; omega

/-- weak window invariant w.r.t. the sender's log `L`: `r` packets released so far -/
structure WInv (L : List α) (start : Nat) (w : Window α) (r : Nat) : Prop where
  le : r ≤ L.length
  next : w.next = idOf start r
  nodup : (keys w.packets).Nodup
  ents : ∀ id p, (id, p) ∈ w.packets → ∃ j, r ≤ j ∧ j < r + 32768 ∧ L[j]? = some p ∧ id = idOf start j

theorem drop_take_succ (L : List α) (r n : Nat) (x : α) (h : L[r]? = some x) :
    (L.drop r).take (n + 1) = x :: (L.drop (r + 1)).take n := by
  obtain ⟨hr, rfl⟩ := List.getElem?_eq_some_iff.mp h
  rw [List.drop_eq_getElem_cons hr, List.take_succ_cons]

theorem keys_erase_mem {k id : Nat} {l : List (Nat × α)} (h : id ∈ keys l) (hne : id ≠ k) : id ∈ keys (erase k l) := by
  obtain ⟨x, hx, hid⟩ := List.mem_map.mp h
  exact List.mem_map.mpr ⟨x, mem_erase.mpr ⟨hx, hid ▸ hne⟩, hid⟩

theorem drain_spec (L : List α) (start : Nat) (fuel : Nat) (w : Window α) (r : Nat) (acc : List α)
    (hinv : WInv L start w r) (hlen : w.packets.length ≤ fuel) :
    ∃ r', r ≤ r' ∧ WInv L start (Window.drain fuel w acc).1 r' ∧
      lookup (Window.drain fuel w acc).1.next (Window.drain fuel w acc).1.packets = none ∧
      (Window.drain fuel w acc).2 = acc ++ (L.drop r).take (r' - r) ∧
      ∀ j, r' ≤ j → j < r + 32768 → idOf start j ∈ keys w.packets → idOf start j ∈ keys (Window.drain fuel w acc).1.packets := by
  fun_induction Window.drain fuel w acc generalizing r with
  | case1 w acc =>
    have : w.packets = [] := List.eq_nil_of_length_eq_zero (by omega)
    exact ⟨r, Nat.le_refl _, hinv, by simp [this, lookup], by simp, fun _ _ _ h => h⟩
  | case2 fuel w acc hl => exact ⟨r, Nat.le_refl _, hinv, hl, by simp, fun _ _ _ h => h⟩
  | case3 fuel w acc p hl ih =>
    -- what is buffered under `next` is `L[r]`: within half a window of `r` the ids are distinct
    obtain ⟨j, hj1, hj2, hLj, hid⟩ := hinv.ents _ _ (mem_of_lookup hl)
    obtain rfl : j = r := idOf_inj (hid.symm.trans hinv.next) (by omega) (by omega)
    have hinv' : WInv L start { next := seqNext w.next, packets := erase w.next w.packets } (j + 1) := by
      refine ⟨(List.getElem?_eq_some_iff.mp hLj).1, by rw [hinv.next, seqNext_idOf], nodup_erase hinv.nodup, fun id q hq => ?_⟩
      obtain ⟨hq1, hne⟩ := mem_erase.mp hq
      obtain ⟨j', h1, h2, h3, h4⟩ := hinv.ents _ _ hq1
      have : j' ≠ j := fun e => hne (by rw [hinv.next, h4, e])
      exact ⟨j', by omega, by omega, h3, h4⟩
    have hmem : w.next ∈ keys w.packets := Classical.byContradiction fun hm => by
      rw [lookup_none_iff.mpr hm] at hl; cases hl
    have hlen' : (erase w.next w.packets).length ≤ fuel := by have := erase_length_lt hmem; omega
    obtain ⟨r', hr', hI, hN, hA, hK⟩ := ih (j + 1) hinv' hlen'
    refine ⟨r', by omega, hI, hN, ?_, fun k hk1 hk2 hk => hK k hk1 (by omega) (keys_erase_mem hk fun e => ?_)⟩
    · rw [hA, show r' - j = (r' - (j + 1)) + 1 by omega, drop_take_succ L j _ p hLj]
      simp
    · have := idOf_inj (e.trans hinv.next) (by omega) (by omega); omega

/-- strong invariant: additionally the head of the window is not buffered -/
def SInv (L : List α) (start : Nat) (w : Window α) (r : Nat) : Prop :=
  WInv L start w r ∧ lookup w.next w.packets = none

theorem isDup_iff (start r i : Nat) (h1 : r < i + 32768) (h2 : i < r + 32768) :
    isDup (idOf start r) (idOf start i) = true ↔ i < r := by
  unfold isDup idOf
  simp only [decide_eq_true_eq]
  omega

theorem update_dup {w : Window α} {id : Nat} (p : α) (h : (isDup w.next id || (lookup id w.packets).isSome) = true) :
    w.update id p = (w, []) := by
  unfold Window.update; rw [if_pos h]

theorem update_new {w : Window α} {id : Nat} (p : α) (h : (isDup w.next id || (lookup id w.packets).isSome) = false) :
    w.update id p = Window.drain (w.packets.length + 1) { w with packets := w.packets ++ [(id, p)] } [] := by
  unfold Window.update; rw [if_neg (by rw [h]; exact Bool.false_ne_true)]
  simp only [List.length_append, List.length_cons, List.length_nil]

theorem nodup_keys_snoc {l : List (Nat × α)} {k : Nat} (p : α) (h : (keys l).Nodup) (hk : k ∉ keys l) :
    (keys (l ++ [(k, p)])).Nodup := by
  simp only [keys, List.map_append, List.map_cons, List.map_nil]
  exact List.nodup_append.mpr ⟨h, List.nodup_cons.mpr ⟨List.not_mem_nil, List.nodup_nil⟩, fun a ha b hb e => hk (by rw [← List.mem_singleton.mp hb, ← e]; exact ha)⟩

/-- **the window theorem**: feeding a copy of `L[i]` (any `i` within half a window of the release point `r`) moves the
    release point to some `r'`, releases exactly `L[r ..< r')`, keeps the invariant, and every index from `r'` on that was
    buffered, and `i` itself, is buffered afterwards -/
theorem update_spec (L : List α) (start : Nat) (w : Window α) (r i : Nat) (p : α)
    (hinv : SInv L start w r) (hp : L[i]? = some p) (h1 : r < i + 32768) (h2 : i < r + 32768) :
    ∃ r', r ≤ r' ∧ SInv L start (w.update (idOf start i) p).1 r' ∧
      (w.update (idOf start i) p).2 = (L.drop r).take (r' - r) ∧
      ∀ j, r' ≤ j → j < r + 32768 → j = i ∨ idOf start j ∈ keys w.packets →
        idOf start j ∈ keys (w.update (idOf start i) p).1.packets := by
  obtain ⟨hw, hnone⟩ := hinv
  cases hc : (isDup w.next (idOf start i) || (lookup (idOf start i) w.packets).isSome) with
  | true =>
    rw [update_dup p hc]
    refine ⟨r, Nat.le_refl _, ⟨hw, hnone⟩, by simp, fun j hj _ hb => hb.elim (fun e => ?_) id⟩
    -- not behind the release point, so it is a duplicate because it is buffered
    have hd : isDup w.next (idOf start i) = false := by
      rw [hw.next, Bool.eq_false_iff, Ne, isDup_iff start r i h1 h2]; omega
    rw [hd, Bool.false_or, Option.isSome_iff_ne_none, Ne, lookup_none_iff, Classical.not_not] at hc
    exact e ▸ hc
  | false =>
    obtain ⟨hd, hl⟩ := Bool.or_eq_false_iff.mp hc
    have hir : ¬ i < r := fun h => by rw [hw.next, (isDup_iff start r i h1 h2).mpr h] at hd; cases hd
    rw [update_new p hc]
    have hinv' : WInv L start { w with packets := w.packets ++ [(idOf start i, p)] } r := by
      refine ⟨hw.le, hw.next, nodup_keys_snoc p hw.nodup (lookup_none_iff.mp (Option.not_isSome_iff_eq_none.mp (by rw [hl]; exact Bool.false_ne_true))), fun id q hq => ?_⟩
      rcases List.mem_append.mp hq with m | m
      · exact hw.ents _ _ m
      · obtain ⟨rfl, rfl⟩ := Prod.mk.inj (List.mem_singleton.mp m)
        exact ⟨i, by omega, h2, hp, rfl⟩
    obtain ⟨r', hr', hI, hN, hA, hK⟩ := drain_spec L start (w.packets.length + 1) _ r [] hinv' (by simp)
    refine ⟨r', hr', ⟨hI, hN⟩, by simpa using hA, fun j hj1 hj2 hb => hK j hj1 hj2 ?_⟩
    simp only [keys, List.map_append, List.mem_append, List.map_cons, List.map_nil, List.mem_singleton]
    exact hb.elim (fun e => Or.inr (e ▸ rfl)) Or.inl

theorem sinv_init (L : List α) (start : Nat) (hs : start < 65536) : SInv L start { next := start, packets := [] } 0 := by
  refine ⟨⟨Nat.zero_le _, ?_, by simp [keys], ?_⟩, by simp [lookup]⟩
  · simp [idOf]; omega
  · intro id p h; cases h

theorem drain_acc_len (fuel : Nat) (w : Window α) (acc : List α) : acc.length ≤ (Window.drain fuel w acc).2.length := by
  fun_induction Window.drain fuel w acc with
  | case1 => exact Nat.le_refl _
  | case2 => exact Nat.le_refl _
  | case3 fuel w acc p hl ih => exact Nat.le_trans (by simp) ih

theorem update_next_progress (L : List α) (start : Nat) (w : Window α) (r : Nat) (p : α)
    (hinv : SInv L start w r) : (w.update (idOf start r) p).2 ≠ [] := by
  obtain ⟨hw, hnone⟩ := hinv
  have hd : isDup w.next w.next = false := by simp [isDup]
  rw [← hw.next, update_new p (by rw [hd, hnone]; rfl)]
  -- the first turn of the release loop finds the packet just appended
  have hl : lookup w.next (w.packets ++ [(w.next, p)]) = some p := by
    rw [lookup_eq, alookup_eq_find, Option.map_eq_none_iff] at hnone
    simp [lookup_eq, alookup_eq_find, List.find?_append, hnone]
  rw [Window.drain, hl]
  exact fun hc => absurd (hc ▸ drain_acc_len _ _ ([] ++ [p])) (by simp)

variable {β : Type}

def Window.map (f : α → β) (w : Window α) : Window β := { next := w.next, packets := w.packets.map (fun kv => (kv.1, f kv.2)) }

theorem lookup_map (f : α → β) (k : Nat) (l : List (Nat × α)) :
    lookup k (l.map (fun kv => (kv.1, f kv.2))) = (lookup k l).map f := by
  rw [lookup_eq, lookup_eq, alookup_eq_find, alookup_eq_find, List.find?_map, Option.map_map, Option.map_map]; rfl

theorem erase_map (f : α → β) (k : Nat) (l : List (Nat × α)) :
    erase k (l.map (fun kv => (kv.1, f kv.2))) = (erase k l).map (fun kv => (kv.1, f kv.2)) := by
  rw [erase_eq, erase_eq, aerase, List.filter_map]; rfl

theorem drain_map (f : α → β) (fuel : Nat) (w : Window α) (acc : List α) :
    Window.drain fuel (w.map f) (acc.map f) = ((Window.drain fuel w acc).1.map f, (Window.drain fuel w acc).2.map f) := by
  have hl (w : Window α) : lookup (w.map f).next (w.map f).packets = (lookup w.next w.packets).map f := lookup_map f _ _
  fun_induction Window.drain fuel w acc with
  | case1 => rfl
  | case2 fuel w acc h => simp only [Window.drain, hl, h, Option.map]
  | case3 fuel w acc p h ih =>
    simp only [Window.drain, hl, h, Option.map]
    simpa only [Window.map, erase_map, List.map_append, List.map_cons, List.map_nil] using ih

/-- naturality of `SlidingWindow.update` -/
theorem update_map (f : α → β) (w : Window α) (id : Nat) (p : α) :
    (w.map f).update id (f p) = ((w.update id p).1.map f, (w.update id p).2.map f) := by
  have hc : (isDup (w.map f).next id || (lookup id (w.map f).packets).isSome) = (isDup w.next id || (lookup id w.packets).isSome) := by
    show (_ || (lookup id (w.packets.map _)).isSome) = _
    rw [lookup_map]; cases lookup id w.packets <;> rfl
  cases h : (isDup w.next id || (lookup id w.packets).isSome) with
  | true => rw [update_dup p h, update_dup (f p) (hc.trans h)]; rfl
  | false =>
    rw [update_new p h, update_new (f p) (hc.trans h), ← drain_map]
    simp only [Window.map, List.map_append, List.map_cons, List.map_nil, List.length_map]

theorem update_all (P : α → Prop) (w : Window α) (id : Nat) (p : α) (hw : ∀ kx ∈ w.packets, P kx.2) (hp : P p) :
    (∀ x ∈ (w.update id p).2, P x) ∧ ∀ kx ∈ (w.update id p).1.packets, P kx.2 := by
  -- `w` is the image under `Subtype.val` of a window of packets that carry a proof of `P`; by naturality so is the result
  have e : w = Window.map Subtype.val ⟨w.next, w.packets.pmap (fun kx h => (kx.1, (⟨kx.2, h⟩ : {x // P x}))) hw⟩ := by
    simp [Window.map, List.map_pmap]
  rw [e, show p = Subtype.val (⟨p, hp⟩ : {x // P x}) from rfl, update_map]
  exact ⟨fun x hx => by obtain ⟨y, -, rfl⟩ := List.mem_map.mp hx; exact y.2,
    fun kx hk => by obtain ⟨y, -, rfl⟩ := List.mem_map.mp hk; exact y.2.2⟩

theorem update_mem (w : Window α) (id : Nat) (p : α) (x : α) (h : x ∈ (w.update id p).2) : x = p ∨ ∃ k, (k, x) ∈ w.packets :=
  (update_all (fun x => x = p ∨ ∃ k, (k, x) ∈ w.packets) w id p (fun kx h => Or.inr ⟨kx.1, h⟩) (Or.inl rfl)).1 x h

end Nx.Chan
