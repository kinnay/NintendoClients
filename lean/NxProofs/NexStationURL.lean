import NxModel.Nex.StationURL
import NxProofs.NexErrors
/-! StationURL: `parse (repr u) = strVals u` for well-formed URLs -/
namespace Nx.Nex.StationURL

theorem splitChar_noSep (c : Char) (l : Str) (h : c ∉ l) : splitChar c l = [l] := by
  induction l with
  | nil => rfl
  | cons x r ih =>
    simp only [List.mem_cons, not_or] at h
    simp [splitChar, Ne.symm h.1, ih h.2]

theorem splitChar_append (c : Char) (l r : Str) (h : c ∉ l) : splitChar c (l ++ c :: r) = l :: splitChar c r := by
  induction l with
  | nil => simp [splitChar]
  | cons x l ih =>
    simp only [List.mem_cons, not_or] at h
    simp [splitChar, Ne.symm h.1, ih h.2]

theorem not_mem_joinWith {c : Char} {sep : Str} {xs : List Str} (hs : c ∉ sep) (h : ∀ x ∈ xs, c ∉ x) :
    c ∉ joinWith sep xs := by
  induction xs with
  | nil => simp [joinWith]
  | cons x r ih =>
    cases r with
    | nil => exact h x (by simp)
    | cons y r' =>
      simp only [joinWith, List.mem_append, not_or]
      exact ⟨⟨h x (by simp), hs⟩, ih fun z hz => h z (by simp [hz])⟩

theorem splitChar_join (c : Char) (xs : List Str) (hne : xs ≠ []) (h : ∀ x ∈ xs, c ∉ x) :
    splitChar c (joinWith [c] xs) = xs := by
  induction xs with
  | nil => exact absurd rfl hne
  | cons x r ih =>
    cases r with
    | nil => simp only [joinWith]; exact splitChar_noSep c x (h x (by simp))
    | cons y r' =>
      simp only [joinWith, List.append_assoc, List.singleton_append]
      rw [splitChar_append c x _ (h x (by simp))]
      rw [ih (by simp) (fun z hz => h z (by simp [hz]))]

theorem splitCS_noColon (l : Str) (h : ':' ∉ l) : splitColonSlash l = [l] := by
  induction l with
  | nil => rfl
  | cons x r ih =>
    simp only [List.mem_cons, not_or] at h
    cases r with
    | nil => rfl
    | cons y r' => simp [splitColonSlash, Ne.symm h.1, ih h.2]

theorem splitCS_append (l r : Str) (h : ':' ∉ l) :
    splitColonSlash (l ++ ':' :: '/' :: r) = l :: splitColonSlash r := by
  induction l with
  | nil => simp [splitColonSlash]
  | cons x l ih =>
    simp only [List.mem_cons, not_or] at h
    have := ih h.2
    cases l with
    | nil => simp [splitColonSlash, Ne.symm h.1] at this ⊢
    | cons y l' =>
      simp only [List.cons_append] at this ⊢
      simp [splitColonSlash, Ne.symm h.1, this]

/-- none of the separator characters -/
def Clean (s : Str) : Prop := ';' ∉ s ∧ '=' ∉ s ∧ ':' ∉ s ∧ '/' ∉ s

instance (s : Str) : Decidable (Clean s) := by unfold Clean; exact inferInstance

theorem Clean.semi {s : Str} (h : Clean s) : ';' ∉ s := h.1
theorem Clean.eq {s : Str} (h : Clean s) : '=' ∉ s := h.2.1
theorem Clean.colon {s : Str} (h : Clean s) : ':' ∉ s := h.2.2.1

/-- the domain of the round trip: a non-empty scheme without `:`, parameter names and rendered values free of
`; = : /`, distinct names, no name that collides with a constructor argument -/
structure WF (u : URL) : Prop where
  scheme_ne : u.scheme ≠ []
  scheme_clean : ':' ∉ u.scheme
  params_clean : ∀ p ∈ u.params, Clean p.1 ∧ Clean p.2.render
  keys_nodup : (u.params.map (·.1)).Nodup
  keys_ok : ∀ p ∈ u.params, p.1 ≠ "scheme".toList ∧ p.1 ≠ "self".toList

theorem parseFields_render (ps : List (Str × PVal)) (acc : List (Str × PVal))
    (hc : ∀ p ∈ ps, Clean p.1 ∧ Clean p.2.render) :
    parseFields (ps.map renderParam) acc = .ok (ps.foldl (fun d p => dictInsert p.1 (PVal.s p.2.render) d) acc) := by
  induction ps generalizing acc with
  | nil => rfl
  | cons p r ih =>
    have hcl := hc p (by simp)
    have hsplit : splitChar '=' (renderParam p) = [p.1, p.2.render] := by
      unfold renderParam
      rw [splitChar_append '=' _ _ hcl.1.eq, splitChar_noSep '=' _ hcl.2.eq]
    simp only [List.map_cons, parseFields, hsplit, List.foldl_cons]
    exact ih _ fun q hq => hc q (by simp [hq])

theorem not_mem_renderParam {c : Char} (hc : c ≠ '=') {ps : List (Str × PVal)}
    (h : ∀ p ∈ ps, c ∉ p.1 ∧ c ∉ p.2.render) : ∀ x ∈ ps.map renderParam, c ∉ x := by
  intro x hx
  obtain ⟨p, hp, rfl⟩ := List.mem_map.mp hx
  simp [renderParam, hc, h p hp]

theorem reserved_any {ps : List (Str × PVal)} (h : ∀ p ∈ ps, p.1 ≠ "scheme".toList ∧ p.1 ≠ "self".toList) :
    ps.any (fun p => decide (p.1 = "scheme".toList ∨ p.1 = "self".toList)) = false := by
  rw [List.any_eq_false]
  exact fun p hp => by simpa only [decide_eq_true_eq, not_or] using h p hp

/-- the parameter text after `:/`, as `parse` reads it -/
def parseParams (fields : Str) : Except Err (List (Str × PVal)) :=
  if fields.isEmpty then pure [] else parseFields (splitChar ';' fields) []

theorem parse_of_split {str scheme fields : Str} (hne : str ≠ []) (hs : splitColonSlash str = [scheme, fields]) :
    parse (some str) = parseParams fields >>= fun params =>
      if params.any (fun p => p.1 = "scheme".toList ∨ p.1 = "self".toList) then .error .type else .ok ⟨scheme, params⟩ := by
  cases str with
  | nil => exact absurd rfl hne
  | cons c r =>
    -- `simp only`: plain `simp` rewrites `"scheme".toList` to its characters, and checking the `Decidable` instance
    -- against the original form then decodes the literal's UTF-8 by `whnf`, which is very slow
    simp only [parse, hs, parseParams]
    split <;> rfl

theorem parseParams_join (ps : List (Str × PVal)) (hc : ∀ p ∈ ps, Clean p.1 ∧ Clean p.2.render)
    (hnd : (ps.map (·.1)).Nodup) :
    parseParams (joinWith [';'] (ps.map renderParam)) = .ok (ps.map fun p => (p.1, PVal.s p.2.render)) := by
  cases ps with
  | nil => rfl
  | cons p r =>
    -- a rendered parameter contains `=`, so the text is not empty
    have hfne : (joinWith [';'] ((p :: r).map renderParam)).isEmpty = false := by
      cases r <;> simp [joinWith, renderParam]
    unfold parseParams
    rw [hfne, splitChar_join ';' _ (by simp), parseFields_render (p :: r) [] hc,
      foldl_dictInsert (·.1) (fun p => PVal.s p.2.render) (p :: r) [] hnd (by simp)]
    · rfl
    · exact not_mem_renderParam (by decide) fun q hq => ⟨(hc q hq).1.semi, (hc q hq).2.semi⟩

theorem parse_repr (u : URL) (h : WF u) : parse (some (repr u)) = .ok (strVals u) := by
  obtain ⟨scheme, params⟩ := u
  obtain ⟨hne, hsc, hcl, hnd, hok⟩ := h
  have hcolon : ':' ∉ joinWith [';'] (params.map renderParam) :=
    not_mem_joinWith (by decide) (not_mem_renderParam (by decide) fun p hp => ⟨(hcl p hp).1.colon, (hcl p hp).2.colon⟩)
  have hrepr : repr ⟨scheme, params⟩ = scheme ++ ':' :: '/' :: joinWith [';'] (params.map renderParam) := by
    simp [repr, hne]
  have hsplit : splitColonSlash (scheme ++ ':' :: '/' :: joinWith [';'] (params.map renderParam)) =
      [scheme, joinWith [';'] (params.map renderParam)] := by
    rw [splitCS_append scheme _ hsc, splitCS_noColon _ hcolon]
  rw [hrepr, parse_of_split (by simp) hsplit, parseParams_join params hcl hnd]
  have hany := reserved_any (ps := params.map fun p => (p.1, PVal.s p.2.render)) (List.forall_mem_map.mpr hok)
  simp only [bind, Except.bind, hany, Bool.false_eq_true, if_false]
  rfl

theorem strVals_of_str (u : URL) (h : ∀ p ∈ u.params, ∃ s, p.2 = PVal.s s) : strVals u = u := by
  obtain ⟨scheme, params⟩ := u
  have hid : ∀ p ∈ params, (p.1, PVal.s p.2.render) = p := fun ⟨k, v⟩ hp => by
    obtain ⟨s, rfl⟩ := h _ hp
    rfl
  simp only [strVals, List.map_congr_left hid, List.map_id']

end Nx.Nex.StationURL
