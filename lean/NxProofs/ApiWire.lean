import NxModel.Api.Wire
import NxProofs.Bytes
/-! lemmas about `NxModel/Api/Wire.lean`: what the RMC layer does to the caller's `nex.*` settings, and that the settings are visible in
the bodies it writes (length arguments: a structure header is 5 bytes per level, a pid 4 or 8 bytes, the server time 8 bytes) -/
namespace Nx.Api.Wire
open Nx.Nex

theorem rmcSettings_below (m : Nat) (c : NexCfg) (h : m < 3) : rmcSettings m c = c := by
  unfold rmcSettings; rw [if_neg (by omega)]

theorem rmcSettings_from3 (m : Nat) (c : NexCfg) (h : 3 ≤ m) : rmcSettings m c = { c with structHeader := true } := by
  unfold rmcSettings; rw [if_pos h]

theorem rmcSettings_header_kept (m : Nat) (c : NexCfg) (h : c.structHeader = true) : (rmcSettings m c).structHeader = true := by
  unfold rmcSettings; split <;> simp [h]

theorem rmcSettings_others (m : Nat) (c : NexCfg) :
    (rmcSettings m c).pidSize = c.pidSize ∧ (rmcSettings m c).version = c.version ∧ (rmcSettings m c).clientVersion = c.clientVersion := by
  unfold rmcSettings; split <;> simp

theorem negotiatedMinor_v0 (a b : Nat) : negotiatedMinor .v0 a b = 0 := rfl

theorem negotiatedMinor_le (k : Kind) (a b : Nat) : negotiatedMinor k a b ≤ a ∧ negotiatedMinor k a b ≤ b := by
  cases k <;> simp [negotiatedMinor] <;> omega

theorem wU8_len {n : Nat} {b : Bytes} (h : wU8 n = .ok b) : b.length = 1 := by rw [(guard_ok h).2]; rfl

theorem wU16_len {n : Nat} {b : Bytes} (h : wU16 n = .ok b) : b.length = 2 := by rw [(guard_ok h).2]; rfl

theorem wU32_len {n : Nat} {b : Bytes} (h : wU32 n = .ok b) : b.length = 4 := by rw [(guard_ok h).2]; rfl

theorem wU64_len {n : Nat} {b : Bytes} (h : wU64 n = .ok b) : b.length = 8 := by rw [(guard_ok h).2]; rfl

theorem wPid_len {s n : Nat} {b : Bytes} (h : wPid s n = .ok b) : b.length = if s = 8 then 8 else 4 := by
  unfold wPid at h
  split at h
  · simp [*, wU64_len h]
  · simp [*, wU32_len h]

theorem wBuffer_len {d b : Bytes} (h : wBuffer d = .ok b) : b.length = d.length + 4 := by
  obtain ⟨l, hl, rfl⟩ := bind_pure_ok h
  simp [wU32_len hl]; omega

theorem wStructLevel_true_len {v : Nat} {body b : Bytes} (h : wStructLevel true v body = .ok b) : b.length = body.length + 5 := by
  simp only [wStructLevel, if_true] at h
  obtain ⟨x, hx, h⟩ := bind_ok h
  obtain ⟨y, hy, rfl⟩ := bind_pure_ok h
  simp [wU8_len hx, wBuffer_len hy]; omega

theorem wStructLevel_false (v : Nat) (body : Bytes) : wStructLevel false v body = .ok body := by
  simp [wStructLevel]

theorem wAnyData_len {name : Option String} {p b : Bytes} (h : wAnyData name p = .ok b) :
    ∃ n, wString name = .ok n ∧ b.length = n.length + 8 + p.length := by
  obtain ⟨n, hn, h⟩ := bind_ok h
  obtain ⟨l, hl, h⟩ := bind_ok h
  obtain ⟨q, hq, rfl⟩ := bind_pure_ok h
  exact ⟨n, hn, by simp [wU32_len hl, wBuffer_len hq]; omega⟩

theorem cat_nil : cat [] = .ok [] := rfl

theorem cat_cons_ok {x : Except Err Bytes} {xs : List (Except Err Bytes)} {b : Bytes} (h : cat (x :: xs) = .ok b) :
    ∃ a r, x = .ok a ∧ cat xs = .ok r ∧ b = a ++ r := by
  obtain ⟨a, ha, h⟩ := bind_ok h
  obtain ⟨r, hr, rfl⟩ := bind_pure_ok h
  exact ⟨a, r, ha, hr, rfl⟩

theorem cat_pair_ok {x y : Except Err Bytes} {b : Bytes} (h : cat [x, y] = .ok b) : ∃ a c, x = .ok a ∧ y = .ok c ∧ b = a ++ c := by
  obtain ⟨a, r, ha, hr, rfl⟩ := cat_cons_ok h
  obtain ⟨c, _, hc, hn, rfl⟩ := cat_cons_ok hr
  cases hn
  exact ⟨a, c, ha, hc, by simp⟩

theorem cat_append_ok {l m : List (Except Err Bytes)} {b : Bytes} (h : cat (l ++ m) = .ok b) :
    ∃ a r, cat l = .ok a ∧ cat m = .ok r ∧ b = a ++ r := by
  induction l generalizing b with
  | nil => exact ⟨[], b, rfl, h, rfl⟩
  | cons x xs ih =>
    obtain ⟨a, r, ha, hr, rfl⟩ := cat_cons_ok (by simpa using h)
    obtain ⟨a', r', ha', hr', rfl⟩ := ih hr
    refine ⟨a ++ a', r', ?_, hr', by simp⟩
    unfold cat; rw [ha, ha']; rfl

theorem wLevel_header_len (c : NexCfg) (body : Except Err Bytes) {x y : Bytes}
    (hx : wLevel { c with structHeader := false } 0 (fun _ => body) = .ok x)
    (hy : wLevel { c with structHeader := true } 0 (fun _ => body) = .ok y) : y.length = x.length + 5 := by
  obtain ⟨b, hb, hx⟩ := bind_ok hx
  obtain ⟨b', hb', hy⟩ := bind_ok hy
  cases hb.symm.trans hb'
  cases hx
  exact wStructLevel_true_len hy

theorem wAuthInfo_header_len (c : NexCfg) (token : String) (ngs ttype sver : Nat) {x y : Bytes}
    (hx : wAuthInfo { c with structHeader := false } token ngs ttype sver = .ok x)
    (hy : wAuthInfo { c with structHeader := true } token ngs ttype sver = .ok y) : y.length = x.length + 10 := by
  obtain ⟨a0, b0, ha0, hb0, rfl⟩ := cat_pair_ok hx
  obtain ⟨a1, b1, ha1, hb1, rfl⟩ := cat_pair_ok hy
  have := wLevel_header_len c _ ha0 ha1
  have := wLevel_header_len c _ hb0 hb1
  simp only [List.length_append]; omega

theorem reqLoginEx_header_len (c : NexCfg) (user token : String) {x y : Bytes}
    (hx : reqLoginEx { c with structHeader := false } user token = .ok x)
    (hy : reqLoginEx { c with structHeader := true } user token = .ok y) : y.length = x.length + 10 := by
  obtain ⟨u0, h0, hu0, hh0, rfl⟩ := cat_pair_ok hx
  obtain ⟨u1, h1, hu1, hh1, rfl⟩ := cat_pair_ok hy
  cases hu0.symm.trans hu1
  obtain ⟨p0, hp0, hh0⟩ := bind_ok hh0
  obtain ⟨p1, hp1, hh1⟩ := bind_ok hh1
  have hp := wAuthInfo_header_len c token 3 1 0 hp0 hp1
  obtain ⟨n0, hn0, l0⟩ := wAnyData_len hh0
  obtain ⟨n1, hn1, l1⟩ := wAnyData_len hh1
  cases hn0.symm.trans hn1
  simp [l0, l1, hp]; omega

theorem reqLoginEx_header_ne (c : NexCfg) (user token : String) {x y : Bytes}
    (hx : reqLoginEx { c with structHeader := false } user token = .ok x)
    (hy : reqLoginEx { c with structHeader := true } user token = .ok y) : x ≠ y := by
  intro h
  have := reqLoginEx_header_len c user token hx hy
  rw [h] at this; omega

theorem reqTicket_len (c : NexCfg) (a b : Nat) {x : Bytes} (h : reqTicket c a b = .ok x) : x.length = if c.pidSize = 8 then 16 else 8 := by
  obtain ⟨p, q, hp, hq, rfl⟩ := cat_pair_ok h
  have := wPid_len hp; have := wPid_len hq
  split <;> simp_all

/-- with structure headers, `RVConnectionData` of NEX >= 3.5.0 carries the server time: 8 bytes more than below 3.5.0 -/
theorem wConnData_version_len (c : NexCfg) (lo hi : Nat) (hlo : lo < 30500) (hhi : 30500 ≤ hi) (main special : String)
    (protocols : List Nat) (time : Nat) {x y : Bytes}
    (hx : wConnData { c with structHeader := true, version := lo } main special protocols time = .ok x)
    (hy : wConnData { c with structHeader := true, version := hi } main special protocols time = .ok y) : y.length = x.length + 8 := by
  unfold wConnData wLevel at hx hy
  have e1 : ¬ lo ≥ 30500 := by omega
  simp only [e1, hhi, ge_iff_le, if_true, if_false, false_and, true_and, Nat.le_refl, List.append_nil] at hx hy
  obtain ⟨bx, hbx, hx⟩ := bind_ok hx
  obtain ⟨by', hby, hy⟩ := bind_ok hy
  obtain ⟨a, r, ha, hr, rfl⟩ := cat_append_ok hby
  obtain ⟨d, s, hd, hs, rfl⟩ := cat_cons_ok hr
  cases hs
  have := wStructLevel_true_len hx
  have := wStructLevel_true_len hy
  have := wU64_len (show wU64 time = .ok d from hd)
  simp_all

/-- … and without headers `save` is handed version 0, so `nex.version` does not show in `RVConnectionData` (common.py:90-91) -/
theorem wConnData_version_without_header (c : NexCfg) (v w : Nat) (main special : String) (protocols : List Nat) (time : Nat) :
    wConnData { c with structHeader := false, version := v } main special protocols time =
    wConnData { c with structHeader := false, version := w } main special protocols time := by
  simp [wConnData, wLevel, wStructLevel_false]

theorem reqBackendLogin_method (c : NexCfg) (user token : String) :
    (reqBackendLogin c user token).1 = if c.version < 40400 then 2 else 6 := by
  unfold reqBackendLogin
  split
  · have : c.version < 40400 := by omega
    simp [this]
  · split <;> simp [*]

end Nx.Api.Wire
