import NxModel.Prudp.Conn
/-!
The per-substream tables of a connection (windows, queues, fragment buffers, counters, ciphers) are plain lists, written one slot
at a time with `setAt` or `List.modify`: that the two writes agree and what reading a slot back gives, whatever the lists hold;
and the key chain `login` fills the cipher table from is as long as the table.
-/
namespace Nx.L1

theorem setAt_eq_modify {α : Type} (l : List α) (i : Nat) (x : α) (f : α → α) (h : l[i]? = some x) :
    setAt l i (f x) = l.modify i f := by
  apply List.ext_getElem?
  intro j
  rw [setAt, List.getElem?_set, List.getElem?_modify]
  by_cases hij : i = j
  · subst hij
    rw [if_pos rfl, if_pos (List.getElem?_eq_some_iff.mp h).1, h]
    exact (congrArg some (if_pos rfl)).symm
  · rw [if_neg hij]
    cases l[j]? with
    | none => rfl
    | some y => exact (congrArg some (if_neg hij)).symm

theorem getElem?_modify_map {α β : Type} (l : List α) (i j : Nat) (f : α → α) (g : α → β) (h : i = j → ∀ x, g (f x) = g x) :
    ((l.modify i f)[j]?).map g = (l[j]?).map g := by
  rw [List.getElem?_modify]
  cases l[j]? with
  | none => rfl
  | some y =>
    by_cases hij : i = j
    · exact congrArg some ((congrArg g (if_pos hij)).trans (h hij y))
    · exact congrArg (fun z => some (g z)) (if_neg hij)

theorem getD_set_self {α : Type} (l : List α) (i : Nat) (x : α) (h : i < l.length) : ((setAt l i x)[i]?).getD x = x := by
  simp [setAt, h]

theorem get_set_self {α : Type} (l : List α) (i : Nat) (x : α) (h : i < l.length) : (setAt l i x)[i]? = some x := by
  simp [setAt, h]

theorem getD_getElem? {α : Type} (l : List α) (i : Nat) (d : α) : (l[i]?).getD d = l.getD i d := by
  simp [List.getD]

theorem setAt_replicate {α : Type} {n sub : Nat} (i : Nat) (x y : α) (hn : sub < n) :
    (setAt (List.replicate n x) i y)[sub]? = some (if sub = i then y else x) := by
  unfold setAt
  by_cases h : sub = i
  · subst h; rw [List.getElem?_set_self (by simpa using hn), if_pos rfl]
  · rw [List.getElem?_set_ne (Ne.symm h), if_neg h]; exact List.getElem?_replicate_of_lt hn

theorem keyChain_length : ∀ (n : Nat) (k : Bytes), (keyChain n k).length = n := by
  intro n
  induction n with
  | zero => intro k; rfl
  | succ n ih => intro k; simp [keyChain, ih]

end Nx.L1
