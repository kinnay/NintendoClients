import NxModel.Prudp.Select
import NxProofs.Bytes
import NxProofs.Bits
/-! basic lemmas for the PRUDP codec proofs: bit packing, flag and type tests, the datagram loop that v0 and v1 share -/
namespace Nx.Prudp

theorem pyOr_eq {a : Nat} (b k : Nat) (h : a < 2 ^ k) : pyOr a b k = a + b * 2 ^ k :=
  or_shiftLeft_of_lt k b h

theorem pyOr4 {a : Nat} (b : Nat) (h : a < 16) : pyOr a b 4 = a + b * 16 := pyOr_eq (k := 4) b h
theorem pyOr3 {a : Nat} (b : Nat) (h : a < 8) : pyOr a b 3 = a + b * 8 := pyOr_eq (k := 3) b h
theorem pyOr8 {a : Nat} (b : Nat) (h : a < 256) : pyOr a b 8 = a + b * 256 := pyOr_eq (k := 8) b h

theorem pyOr8_mod_div {m : Nat} (s : Nat) (hm : m < 256) : pyOr m s 8 % 256 = m ∧ pyOr m s 8 / 256 = s := by
  rw [pyOr8 s hm]; exact (add_mul_div_mod s hm).symm

/-- the orientation of the lite stream-type byte, `(source_type << 4) | dest_type` -/
theorem shl4_or {b : Nat} (a : Nat) (h : b < 16) : (a <<< 4) ||| b = b + a * 16 := by
  rw [Nat.or_comm]; exact or_shiftLeft_of_lt 4 a h

theorem rd_nil_append (r : Bytes) : rd 0 r = .ok ([], r) := rd_append [] r

theorem hasSize_eq (f : Nat) : hasSize f = decide (f / 8 % 2 = 1) := by
  unfold hasSize; rw [Nat.testBit_eq_decide_div_mod_eq]

theorem hasAck_eq (f : Nat) : hasAck f = decide (f % 2 = 1) := by
  unfold hasAck; rw [Nat.testBit_eq_decide_div_mod_eq]; simp

theorem optLen_some {b : Option Bytes} {n : Nat} (h : optLen b n) : ∃ x, b = some x ∧ x.length = n :=
  Option.map_eq_some_iff.mp h

theorem v1_type_cases (t : Nat) : t = 0 ∨ t = 1 ∨ t = 2 ∨ (t ≠ 0 ∧ t ≠ 1 ∧ t ≠ 2) := by omega

theorem isSynOrConnect_zero : isSynOrConnect 0 = true := rfl
theorem isSynOrConnect_one : isSynOrConnect 1 = true := rfl
theorem not_isSynOrConnect {t : Nat} (h0 : t ≠ 0) (h1 : t ≠ 1) : ¬ isSynOrConnect t = true := by
  simp [isSynOrConnect, h0, h1]

/-! ### the datagram loop of v0 and v1: `while not stream.eof(): packets.append(decode_one(stream))`

Everything the two codecs need of their loops holds for any one-packet decoder `dec`. -/

/-- the loop of `decode` over a one-packet decoder -/
def decLoop {α : Type} (dec : Bytes → Except Err (α × Bytes)) : Nat → Bytes → Except Err (List α)
  | 0, _ => .error .other
  | fuel + 1, data =>
    if data.isEmpty then .ok []
    else
      match dec data with
      | .error e => .error e
      | .ok (p, r) =>
        match decLoop dec fuel r with
        | .error e => .error e
        | .ok ps => .ok (p :: ps)

variable {α : Type} {dec : Bytes → Except Err (α × Bytes)}

theorem decLoop_cons {d r : Bytes} {p : α} (fuel : Nat) (hne : d ≠ []) (h : dec d = .ok (p, r)) :
    decLoop dec (fuel + 1) d = (decLoop dec fuel r).map (p :: ·) := by
  rw [decLoop, if_neg (by simpa using hne), h]
  simp only []
  cases decLoop dec fuel r <;> rfl

theorem decLoop_fuel (hprog : ∀ {d r : Bytes} {p : α}, dec d = .ok (p, r) → r.length < d.length) :
    ∀ (f1 f2 : Nat) (d : Bytes), d.length < f1 → d.length < f2 → decLoop dec f1 d = decLoop dec f2 d := by
  intro f1
  induction f1 with
  | zero => intro f2 d h; omega
  | succ f ih =>
    intro f2 d h1 h2
    cases f2 with
    | zero => omega
    | succ g =>
      unfold decLoop
      split
      · rfl
      · cases hd : dec d with
        | error e => rfl
        | ok v =>
          have := hprog hd
          simp only []
          rw [ih g v.2 (by omega) (by omega)]

/-- `Ok` is an invariant of the lists still to be read, not a predicate of single packets: for v0 all but the last
    packet need a size field. -/
theorem decLoop_flatMap {enc : α → Bytes} (Ok : List α → Prop)
    (hstep : ∀ p l, Ok (p :: l) → Ok l ∧ enc p ≠ [] ∧ dec (enc p ++ l.flatMap enc) = .ok (p, l.flatMap enc)) :
    ∀ (ps : List α) (fuel : Nat), Ok ps → (ps.flatMap enc).length < fuel →
      decLoop dec fuel (ps.flatMap enc) = .ok ps := by
  intro ps
  induction ps with
  | nil => intro fuel _ hf; cases fuel with
    | zero => omega
    | succ f => rfl
  | cons p ps ih =>
    intro fuel hok hf
    cases fuel with
    | zero => omega
    | succ f =>
      obtain ⟨hok', hne, hd⟩ := hstep p ps hok
      have := List.length_pos_iff.mpr hne
      rw [List.flatMap_cons, List.length_append] at hf
      rw [List.flatMap_cons, decLoop_cons f (by simp [hne]) hd, ih f hok' (by omega)]
      rfl

end Nx.Prudp
