import NxModel.Api.Legacy
/-! C20 — a REJECTED setter call leaves the client as it was. `Nasc.apply` returns `Except`: a refused call yields no new state, so a
program that catches the exception goes on with the state it had (`applyCaught`); over a whole history of setter calls the rejected
ones can therefore be deleted (`nasc_history_without_rejected`, core's `List.foldl_filter`). Tie: harness/c20_reject.py. The seven
Switch clients' `set_system_version` is `Nx.C18.set_version_atomic`. -/
namespace Nx.Api

/-- what a program that catches the setter's exception continues with -/
def Nasc.applyCaught (s : Nasc) (st : NascSet) : Nasc :=
  match s.apply st with
  | .ok s' => s'
  | .error _ => s

/-- the calls `NASCClient` refuses: a cartridge title without rom id -/
def NascSet.refused : NascSet → Bool
  | .title _ _ _ _ mt rom => mt == 2 && rom.isNone
  | _ => false

theorem nasc_refused_iff (s : Nasc) (st : NascSet) : (∃ e, s.apply st = .error e) ↔ st.refused = true := by
  cases st <;> simp [Nasc.apply, NascSet.refused]
  split <;> simp_all

theorem nasc_applyCaught_refused (s : Nasc) (st : NascSet) (h : st.refused = true) : s.applyCaught st = s := by
  obtain ⟨e, he⟩ := (nasc_refused_iff s st).mpr h
  simp [Nasc.applyCaught, he]

theorem nasc_applyCaught_accepted (s s' : Nasc) (st : NascSet) (h : s.apply st = .ok s') : s.applyCaught st = s' := by
  simp [Nasc.applyCaught, h]

theorem nasc_history_without_rejected (s : Nasc) (l : List NascSet) :
    l.foldl Nasc.applyCaught s = (l.filter fun st => !st.refused).foldl Nasc.applyCaught s := by
  rw [List.foldl_filter]
  congr; funext s st
  cases h : st.refused <;> simp [h, nasc_applyCaught_refused]

end Nx.Api
