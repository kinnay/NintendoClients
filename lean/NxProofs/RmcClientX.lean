import NxModel.Nex.RmcClientX
import NxProofs.RmcClient
/-! The extended machine (`cleanup()` with logout hooks, requests of the peer). `xrun_core`: its call-matching state and outputs
are those of the core machine on the core ops, whatever the hooks do (return, raise, never return) and in whatever
interleaving, so what C10 proves about `run` holds for connections with servers registered. -/
namespace Nx.RmcClient
open Nx.Rmc

theorem coreOuts_append (a b : List XOut) : coreOuts (a ++ b) = coreOuts a ++ coreOuts b := by
  induction a with
  | nil => rfl
  | cons x r ih => cases x <;> simp [coreOuts, ih]

theorem coreOuts_map_core (l : List Out) : coreOuts (l.map .core) = l := by
  induction l with
  | nil => rfl
  | cons x r ih => simp [coreOuts, ih]

theorem mem_coreOuts {o : Out} {l : List XOut} : o ∈ coreOuts l ↔ XOut.core o ∈ l := by
  induction l with
  | nil => simp [coreOuts]
  | cons y r ih => cases y <;> simp [coreOuts, ih]

theorem coreOps_append (a b : List XOp) : coreOps (a ++ b) = coreOps a ++ coreOps b := by
  induction a with
  | nil => rfl
  | cons x r ih => cases x <;> simp [coreOps, ih]

theorem nextHook_core (x : XState) (rest : List Nat) :
    (nextHook x rest).1.core = x.core ∧ coreOuts (nextHook x rest).2 = [] := by
  cases rest <;> simp [nextHook, coreOuts]

theorem xstep_core (x : XState) (op : XOp) :
    (xstep x op).1.core = (run x.core (coreOps [op])).1 ∧ coreOuts (xstep x op).2 = (run x.core (coreOps [op])).2 := by
  cases op with
  | core o =>
    simp only [xstep, coreOps, run]
    split
    · have h := nextHook_core { x with core := (step x.core o).1 } x.servers
      simp [coreOuts_append, coreOuts_map_core, h.1, h.2]
    · simp [coreOuts_map_core]
  | hookReturn =>
    simp only [xstep, coreOps, run]
    split
    · simp [coreOuts]
    · exact nextHook_core x _
  | hookRaise =>
    simp only [xstep, coreOps, run]
    split <;> simp [coreOuts]
  | peerRequest r =>
    simp only [xstep, coreOps, run, step]
    split <;> simp [coreOuts]
  | handlerEnd ok =>
    simp only [xstep, coreOps, run]
    split <;> simp [coreOuts]

theorem xrun_append (x : XState) (a b : List XOp) :
    xrun x (a ++ b) = ((xrun (xrun x a).1 b).1, (xrun x a).2 ++ (xrun (xrun x a).1 b).2) := by
  induction a generalizing x with
  | nil => simp [xrun]
  | cons o r ih => simp only [List.cons_append, xrun, ih]; simp

theorem xrun_core (x : XState) (ops : List XOp) :
    (xrun x ops).1.core = (run x.core (coreOps ops)).1 ∧ coreOuts (xrun x ops).2 = (run x.core (coreOps ops)).2 := by
  induction ops generalizing x with
  | nil => exact ⟨rfl, rfl⟩
  | cons op rest ih =>
    obtain ⟨h1, h2⟩ := xstep_core x op
    obtain ⟨i1, i2⟩ := ih (xstep x op).1
    have e : coreOps (op :: rest) = coreOps [op] ++ coreOps rest := coreOps_append [op] rest
    simp only [xrun, e, run_append, coreOuts_append]
    rw [i1, i2, h1, h2]
    exact ⟨rfl, rfl⟩

theorem xrun_rel {x : XState} {a : CallSpec} (hR : Rel x.core a) (ops : List XOp)
    (hd : distinctLive x.core (coreOps ops) = true) : Rel (xrun x ops).1.core (CallSpec.run a (coreOps ops)).1 :=
  (xrun_core x ops).1 ▸ (run_refines hR (coreOps ops) hd).1

theorem step_runsCleanup {s : State} {op : Op} (h : runsCleanup s op = true) : (step s op).1.closed = true := by
  cases op <;> first | exact doCleanup_closed s | cases h

/-- the invariant is "closed while a hook is pending" (`hinv`): hooks are entered only by a closing step or by the previous
    hook's return -/
theorem xstep_hooks (x : XState) (op : XOp) (hinv : x.pending ≠ [] → x.core.closed = true)
    (h : (xstep x op).1.pending ≠ [] ∨
      ∃ o ∈ (xstep x op).2, (∃ srv, o = .logout srv) ∨ o = .cleanupReturned ∨ o = .cleanupRaised) :
    (xstep x op).1.core.closed = true := by
  -- a step that leaves `pending` alone and emits none of the three notes: the hypothesis is the one before the step
  have idle : ∀ {x' : XState} {outs : List XOut}, x'.pending = x.pending →
      (∀ o ∈ outs, ¬((∃ srv, o = .logout srv) ∨ o = .cleanupReturned ∨ o = .cleanupRaised)) →
      (x'.pending ≠ [] ∨ ∃ o ∈ outs, (∃ srv, o = .logout srv) ∨ o = .cleanupReturned ∨ o = .cleanupRaised) →
      x.core.closed = true :=
    fun e hn h => h.elim (fun hp => hinv (e ▸ hp)) fun ⟨o, ho, hk⟩ => absurd hk (hn o ho)
  cases op with
  | core c =>
    by_cases hr : runsCleanup x.core c = true
    · simp only [xstep, hr, if_true]
      rw [(nextHook_core _ _).1]; exact step_runsCleanup hr
    · simp only [xstep, hr, Bool.false_eq_true, if_false] at h ⊢
      refine step_closed_stays x.core c (idle rfl (fun o ho => ?_) h)
      obtain ⟨o', _, rfl⟩ := List.mem_map.mp ho
      simp
  | hookReturn =>
    simp only [xstep] at h ⊢
    split at h
    · exact idle rfl (by simp) h
    · rename_i hp; rw [(nextHook_core x _).1]; exact hinv (by simp [hp])
  | hookRaise =>
    simp only [xstep] at h ⊢
    split at h
    · exact idle rfl (by simp) h
    · rename_i hp; exact hinv (by simp [hp])
  | peerRequest r =>
    simp only [xstep, step] at h ⊢
    split at h <;> exact idle rfl (by simp) h
  | handlerEnd ok =>
    simp only [xstep] at h ⊢
    split at h <;> exact idle rfl (by simp) h

theorem xrun_inv (x : XState) (ops : List XOp) (hinv : x.pending ≠ [] → x.core.closed = true) :
    (xrun x ops).1.pending ≠ [] → (xrun x ops).1.core.closed = true := by
  induction ops generalizing x with
  | nil => exact hinv
  | cons op rest ih => exact ih (xstep x op).1 fun h => xstep_hooks x op hinv (.inl h)

theorem xstep_wake_outs (x : XState) (t : Nat) :
    (xstep x (.core (.wake t))).2 = (step x.core (.wake t)).2.map .core := by
  simp [xstep, runsCleanup]

theorem xstep_handlerEnd_core (x : XState) (ok : Bool) :
    (xstep x (.handlerEnd ok)).1.core = x.core ∧ coreOuts (xstep x (.handlerEnd ok)).2 = [] :=
  xstep_core x (.handlerEnd ok)

/-- the extended reading of a datagram projects onto the core reading -/
theorem xopOfData_core (data : Bytes) :
    (xopOfData data).map (fun o => coreOps [o]) = (opOfData data).map fun o => [o] := by
  unfold xopOfData opOfData
  cases decode data with
  | error e => rfl
  | ok m =>
    by_cases h : m.mode = 0 <;> simp [h, coreOps]

theorem servedIds_append (a b : List XOut) : servedIds (a ++ b) = servedIds a ++ servedIds b := by
  induction a with
  | nil => rfl
  | cons x r ih => cases x <;> simp [servedIds, ih]

theorem answeredIds_append (a b : List XOut) : answeredIds (a ++ b) = answeredIds a ++ answeredIds b := by
  induction a with
  | nil => rfl
  | cons x r ih => cases x <;> simp [answeredIds, ih]

theorem servedIds_map_core (l : List Out) : servedIds (l.map .core) = [] := by
  induction l with
  | nil => rfl
  | cons x r ih => simp [servedIds, ih]

theorem answeredIds_map_core (l : List Out) : answeredIds (l.map .core) = [] := by
  induction l with
  | nil => rfl
  | cons x r ih => simp [answeredIds, ih]

theorem nextHook_served (x : XState) (rest : List Nat) :
    servedIds (nextHook x rest).2 = [] ∧ answeredIds (nextHook x rest).2 = [] ∧ (nextHook x rest).1.handling = x.handling := by
  cases rest <;> simp [nextHook, servedIds, answeredIds]

theorem xstep_served (x : XState) (op : XOp) :
    servedIds (xstep x op).2 = (peerReqs [op]).map (·.callId) := by
  cases op with
  | core o =>
    simp only [xstep, peerReqs]
    split
    · simp [servedIds_append, servedIds_map_core, (nextHook_served _ _).1]
    · simp [servedIds_map_core]
  | hookReturn =>
    simp only [xstep, peerReqs]
    split
    · simp [servedIds]
    · simp [(nextHook_served _ _).1]
  | hookRaise =>
    simp only [xstep, peerReqs]
    split <;> simp [servedIds]
  | peerRequest r =>
    simp only [xstep, step, peerReqs]
    split <;> simp [servedIds]
  | handlerEnd ok =>
    simp only [xstep, peerReqs]
    split <;> simp [servedIds]

theorem peerReqs_append (a b : List XOp) : peerReqs (a ++ b) = peerReqs a ++ peerReqs b := by
  induction a with
  | nil => rfl
  | cons x r ih => cases x <;> simp [peerReqs, ih]

theorem xrun_served (x : XState) (ops : List XOp) :
    servedIds (xrun x ops).2 = (peerReqs ops).map (·.callId) := by
  induction ops generalizing x with
  | nil => rfl
  | cons op rest ih =>
    have e : peerReqs (op :: rest) = peerReqs [op] ++ peerReqs rest := peerReqs_append [op] rest
    simp only [xrun, servedIds_append, e, List.map_append]
    rw [xstep_served, ih]

theorem xstep_answered (x : XState) (op : XOp) :
    (∀ id ∈ answeredIds (xstep x op).2, ∃ r, x.handling = some r ∧ r.callId = id) ∧
    (∀ r, (xstep x op).1.handling = some r → x.handling = some r ∨ r.callId ∈ servedIds (xstep x op).2) := by
  -- a step that sends no answer and leaves `handling` alone
  have idle : ∀ {x' : XState} {outs : List XOut}, answeredIds outs = [] → x'.handling = x.handling →
      (∀ id ∈ answeredIds outs, ∃ r, x.handling = some r ∧ r.callId = id) ∧
      (∀ r, x'.handling = some r → x.handling = some r ∨ r.callId ∈ servedIds outs) :=
    fun ha hh => ⟨by simp [ha], fun r h => .inl (hh ▸ h)⟩
  cases op with
  | core o =>
    simp only [xstep]
    split
    · exact idle (by simp [answeredIds_append, answeredIds_map_core, (nextHook_served _ _).2.1]) (nextHook_served _ _).2.2
    · exact idle (answeredIds_map_core _) rfl
  | hookReturn =>
    simp only [xstep]
    split
    · exact idle rfl rfl
    · exact idle (nextHook_served _ _).2.1 (nextHook_served _ _).2.2
  | hookRaise => simp only [xstep]; split <;> exact idle rfl rfl
  | peerRequest q =>
    simp only [xstep, step]
    split
    · exact ⟨by simp [answeredIds], fun r h => .inr (by simp at h; simp [← h, servedIds])⟩
    · exact idle (by simp [answeredIds]) rfl
  | handlerEnd ok =>
    simp only [xstep]
    split
    · exact idle rfl rfl
    · rename_i r h; exact ⟨by simp [answeredIds, h], by simp⟩

/-- `S` = any set that holds the id being handled when the run starts and the ids served in the run: a fixed upper bound
    for the whole run, so nothing has to be said about when an id joined it (nor is anything said about the order of
    dispatch and answer) -/
theorem xrun_answered (x : XState) (ops : List XOp) (S : Nat → Prop) (hh : ∀ r, x.handling = some r → S r.callId)
    (hS : ∀ id ∈ servedIds (xrun x ops).2, S id) : ∀ id ∈ answeredIds (xrun x ops).2, S id := by
  induction ops generalizing x with
  | nil => nofun
  | cons op rest ih =>
    obtain ⟨s1, s2⟩ := xstep_answered x op
    simp only [xrun, servedIds_append, answeredIds_append, List.mem_append] at hS ⊢
    rintro id (h | h)
    · obtain ⟨r, hr, rfl⟩ := s1 id h
      exact hh r hr
    · exact ih _ (fun r hr => (s2 r hr).elim (hh r) fun h => hS _ (.inl h)) (fun id h => hS id (.inr h)) id h

end Nx.RmcClient
