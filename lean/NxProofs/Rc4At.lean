import NxModel.Prudp.Conn
import NxProofs.Cipher
import NxProofs.Crypto
/-! RC4 at a running position (`rc4At key pos`), as the endpoint model uses it: it is xor with a key stream, hence
length-preserving and its own inverse at the same position — for every key. -/
namespace Nx.L1
open Nx.Chan Nx.Crypto

theorem rc4At_length (key : Bytes) (pos : Nat) (d : Bytes) : (rc4At key pos d).length = d.length :=
  rc4Apply_length _ _

/-- the key-stream byte RC4 produces at position `p` under `key` -/
def rc4Ks (key : Bytes) (p : Nat) : UInt8 := (rc4Next (rc4Skip p (rc4Ksa key))).1

theorem rc4Skip_succ : ∀ (n : Nat) (st : Rc4), rc4Skip (n + 1) st = (rc4Next (rc4Skip n st)).2 := by
  intro n
  induction n with
  | zero => intro st; rfl
  | succ n ih => intro st; show rc4Skip (n + 1) (rc4Next st).2 = _; rw [ih]; rfl

theorem rc4At_eq_xorAt (key : Bytes) : ∀ (d : Bytes) (pos : Nat), rc4At key pos d = xorAt (rc4Ks key) pos d := by
  intro d
  induction d with
  | nil => intro pos; rfl
  | cons x r ih =>
    intro pos
    have h := ih (pos + 1)
    unfold rc4At at h ⊢
    rw [rc4Skip_succ] at h
    simp only [rc4Apply, xorAt]
    rw [h]; rfl

theorem rc4At_involutive (key : Bytes) (pos : Nat) (d : Bytes) : rc4At key pos (rc4At key pos d) = d := by
  rw [rc4At_eq_xorAt, rc4At_eq_xorAt]; exact xorAt_involutive _ d pos

theorem rc4At_isEmpty (key : Bytes) (pos : Nat) (d : Bytes) : (rc4At key pos d).isEmpty = d.isEmpty := by
  rw [Bool.eq_iff_iff, List.isEmpty_iff_length_eq_zero, List.isEmpty_iff_length_eq_zero, rc4At_length]

end Nx.L1
