import NxModel.Prudp.L1Crypto
import NxModel.Prudp.Sig
import NxModel.Prudp.Payload
/-! the signature functions the L1 endpoint model signs with (`L1Crypto`, written from the code for the driver) are the
C08 reference functions (`Sig`, written from the protocol description): two independently written definitions, one function -/
namespace Nx.L1
open Nx.Prudp

theorem foldl_sum (b : Bytes) : ∀ acc : Nat, b.foldl (fun a x => a + x.toNat) acc = acc + Prudp.sumBytes b := by
  induction b with
  | nil => intro acc; simp [Prudp.sumBytes]
  | cons x r ih => intro acc; simp [List.foldl_cons, Prudp.sumBytes, ih]; omega

theorem sumBytes_agree (b : Bytes) : L1.sumBytes b = Prudp.sumBytes b := by
  unfold L1.sumBytes; rw [foldl_sum]; omega

theorem v0DataSig_agree (c : V0Cfg) (p : Packet) (sk : Bytes) : v0DataSig c p sk = v0DataSignature c p sk := by
  unfold v0DataSig v0DataSignature
  split <;> rfl

theorem v0PacketSig_agree (c : V0Cfg) (p : Packet) (sk cs : Bytes) : v0PacketSig c p sk cs = v0PacketSignature c p sk cs := by
  unfold v0PacketSig v0PacketSignature
  simp only [v0DataSig_agree]

theorem v1PacketSig_agree (key : Bytes) (p : Packet) (sk cs : Bytes) : v1PacketSig key p sk cs = v1PacketSignature key p sk cs := by
  unfold v1PacketSig v1PacketSignature
  simp only [sumBytes_agree]

theorem litePacketSig_agree (key : Bytes) (p : Packet) (cs : Bytes) : litePacketSig key p cs = litePacketSignature key p cs := rfl

theorem v0ConnSig_agree (a : Addr) : v0ConnSig a = v0ConnectionSignature (inetAton a.1) a.2 := rfl
theorem v1ConnSig_agree (a : Addr) : v1ConnSig a = v1ConnectionSignature (inetAton a.1) a.2 := rfl

theorem initUnreliableKey_agree (key : Bytes) : L1.initUnreliableKey key = Prudp.initUnreliableKey key := rfl

/-- the key chain and the per-packet unreliable key: the two definitions (positional `zipWith` vs structural recursion /
    `set`) are only evaluated here, on one sample key of each length the protocol uses (32 and 16 bytes); no general
    equation is proved: the L1 replay and the C08 differential exercise both definitions on every session -/
example : L1.modifyKey (List.range 32 |>.map (fun i => b8 (7 * i + 3))) = Prudp.modifyKey (List.range 32 |>.map (fun i => b8 (7 * i + 3))) := by decide +kernel
example : L1.modifyKey (List.range 16 |>.map (fun i => b8 (250 - i))) = Prudp.modifyKey (List.range 16 |>.map (fun i => b8 (250 - i))) := by decide +kernel
example : L1.makeUnreliableKey (List.range 32 |>.map (fun i => b8 (200 + i))) 0xFFEE 0x77 =
    Prudp.makeUnreliableKey (List.range 32 |>.map (fun i => b8 (200 + i))) 0xFFEE 0x77 := by decide +kernel

end Nx.L1
