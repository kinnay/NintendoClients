import NxProofs.Window
import NxProofs.HandleForm
import NxProofs.SetAt
/-!
# L1 — what an operation of an endpoint may write

Every method of `Conn` changes the state by a sequence of elementary updates (`Upd`), each writing one place (`Loc`). Each method
has its footprint theorem `Steps F c (op c).c` (`handle` one per kind of packet): the result is reached from `c` by updates whose places lie in `F`.
A frame property (a reflexive, transitive relation between the state before and after: `SendFr`, `RecvFr`, `AckFr`, `ResSub`,
`StateFr`) is checked once against the updates (`….upd`) and then holds across every method whose footprint stays inside
(`Steps.frame`); an invariant the updates keep (`Conn.KA`, `AWF`, `Conn.Doomed`) holds after every method (`Steps.inv`).
-/
namespace Nx.L1
open Nx.Prudp

/-- the places of a connection an update writes to -/
inductive Loc where
  | life                 -- `cleanup()`: state, EOF flag, events, all timers
  | arm (now : Time)     -- a retransmission timer is added at instant `now`
  | cancel               -- retransmission timers are cancelled by acknowledgements
  | snd (sub : Nat)      -- sequence counter and encryption position of a substream
  | rcv (sub : Nat)      -- window, fragment buffer, queue and decryption position of a substream
  | aux                  -- unreliable / ping counters, the unreliable queue: nothing the reliable channel reads
  | phase                -- the handshake's results and the state changes other than `cleanup`

inductive Upd where
  | cleanup
  | arm (now : Time) (p : Packet) (k : Nat)
  | ack (k : AckKey)                     -- `handle`: the acknowledged packet's timer
  | acks (hit : AckKey × Nat → Bool)     -- `handle_aggregate_ack`
  | nextId (sub : Nat)
  | enc (sub n : Nat)
  | nextUnrel
  | nextPing
  | dec (sub n : Nat)
  | window (sub : Nat) (w : Chan.Window Packet)
  | buffer (sub : Nat) (b : Bytes)
  | deliver (sub : Nat) (b : Bytes) (q : List Bytes)   -- a message is complete: new fragment buffer and queue
  | deliverU (d : Bytes)
  | synAck (p : Packet)
  | connectAck (sid : Nat)
  | closing

def Upd.loc : Upd → Loc
  | .cleanup => .life
  | .arm now _ _ => .arm now
  | .ack _ | .acks _ => .cancel
  | .nextId sub | .enc sub _ => .snd sub
  | .dec sub _ | .window sub _ | .buffer sub _ | .deliver sub _ _ => .rcv sub
  | .nextUnrel | .nextPing | .deliverU _ => .aux
  | .synAck _ | .connectAck _ | .closing => .phase

/-- Entries of the counter and cipher tables are rewritten in place (`List.modify`): an update needs no look-up of its own, and
    what it leaves alone follows from `List.getElem?_modify`. The model writes the same lists with `setAt` after its own look-up
    (`setAt_eq_modify`). The two state changes of a live connection carry the check `handle` / `disconnect()` make before them,
    so that no update revives a DISCONNECTED connection. Proofs open it with `dsimp only [Upd.run]`: `rw` and `simp only` go
    through its sixteen equation lemmas over `Conn`, at ten times the cost. -/
def Upd.run : Upd → Conn → Conn
  | .cleanup, c => c.cleanup.c
  | .arm now p k, c => c.arm now p k
  | .ack k, c =>
    { c with ackEvents := ackErase k c.ackEvents,
             sched := c.sched.map (fun s => (ackLookup k c.ackEvents).toList.foldl Sched.remove s) }
  | .acks hit, c =>
    { c with ackEvents := c.ackEvents.filter (fun e => !hit e),
             sched := c.sched.map (fun s => ((c.ackEvents.filter hit).map (·.2)).foldl Sched.remove s) }
  | .nextId sub, c => { c with counters := c.counters.modify sub Chan.seqNext }
  | .enc sub n, c => { c with relCiphers := c.relCiphers.modify sub (fun sc => { sc with encPos := sc.encPos + n }) }
  | .nextUnrel, c => { c with unrelCounter := Chan.seqNext c.unrelCounter }
  | .nextPing, c => { c with pingCounter := Chan.seqNext c.pingCounter }
  | .dec sub n, c => { c with relCiphers := c.relCiphers.modify sub (fun sc => { sc with decPos := sc.decPos + n }) }
  | .window sub w, c => { c with windows := setAt c.windows sub w }
  | .buffer sub b, c => { c with fragBufs := setAt c.fragBufs sub b }
  | .deliver sub b q, c => { c with fragBufs := setAt c.fragBufs sub b, queues := setAt c.queues sub q }
  | .deliverU d, c => { c with unrelQueue := c.unrelQueue ++ [d] }
  | .synAck p, c => if c.state = STATE_DISCONNECTED then c else c.adopt p
  | .connectAck sid, c => { c with remoteSessionId := some sid, handshakeEvent := true }
  | .closing, c => if c.state = STATE_CONNECTED then { c with state := STATE_DISCONNECTING } else c

inductive Steps (F : Loc → Prop) : Conn → Conn → Prop
  | refl (c : Conn) : Steps F c c
  | step {c c' : Conn} (u : Upd) : F u.loc → Steps F (u.run c) c' → Steps F c c'

theorem Steps.one {F : Loc → Prop} (u : Upd) (c : Conn) (h : F u.loc) : Steps F c (u.run c) := .step u h (.refl _)

theorem Steps.trans {F : Loc → Prop} {a b c : Conn} (h1 : Steps F a b) (h2 : Steps F b c) : Steps F a c := by
  induction h1 with
  | refl => exact h2
  | step u hu _ ih => exact .step u hu (ih h2)

theorem Steps.mono {F G : Loc → Prop} {c c' : Conn} (h : Steps F c c') (hFG : ∀ l, F l → G l) : Steps G c c' := by
  induction h with
  | refl => exact .refl _
  | step u hu _ ih => exact .step u (hFG _ hu) ih

theorem Steps.frame {F : Loc → Prop} {X : Conn → Conn → Prop} (refl : ∀ c, X c c) (trans : ∀ {a b c}, X a b → X b c → X a c)
    (upd : ∀ (u : Upd) (c : Conn), F u.loc → X c (u.run c)) {c c' : Conn} (h : Steps F c c') : X c c' := by
  induction h with
  | refl => exact refl _
  | step u hu _ ih => exact trans (upd u _ hu) ih

theorem Steps.inv {F : Loc → Prop} {I : Conn → Prop} (upd : ∀ (u : Upd) (c : Conn), F u.loc → I c → I (u.run c))
    {c c' : Conn} (h : Steps F c c') : I c → I c' :=
  h.frame (X := fun a b => I a → I b) (fun _ => id) (fun h1 h2 => h2 ∘ h1) upd

theorem Steps.eq_of_empty {F : Loc → Prop} {c c' : Conn} (h : Steps F c c') (hF : ∀ l, ¬ F l) : c' = c :=
  h.frame (X := fun c c' => c' = c) (fun _ => rfl) (fun h1 h2 => h2.trans h1) (fun _ _ hu => absurd hu (hF _))

theorem Steps.bind' {F : Loc → Prop} {c : Conn} {r : R} {f : Conn → R} (h1 : Steps F c r.c) (h2 : ∀ x, Steps F c x → Steps F x (f x).c) :
    Steps F c (r.bind f).c := by
  unfold R.bind
  cases r.err with
  | some e => exact h1
  | none => exact h1.trans (h2 r.c h1)

theorem Steps.bind {F : Loc → Prop} {c : Conn} {r : R} {f : Conn → R} (h1 : Steps F c r.c) (h2 : ∀ x, Steps F x (f x).c) :
    Steps F c (r.bind f).c :=
  h1.bind' fun x _ => h2 x

theorem Steps.ite {F : Loc → Prop} {c : Conn} {p : Prop} [Decidable p] {a b : R} (ha : p → Steps F c a.c) (hb : ¬ p → Steps F c b.c) :
    Steps F c (if p then a else b).c := by
  by_cases h : p
  · rw [if_pos h]; exact ha h
  · rw [if_neg h]; exact hb h

/-- what no update touches: the settings, the link flag, whether there is a scheduler -/
structure Fixed (c c' : Conn) : Prop where
  link : c'.linkUp = c.linkUp
  frag : c'.fragmentSize = c.fragmentSize
  limit : c'.resendLimit = c.resendLimit
  rt : c'.resendTimeout = c.resendTimeout
  pt : c'.pingTimeout = c.pingTimeout
  some : c'.sched.isSome = c.sched.isSome

theorem Upd.run_fixed (u : Upd) (c : Conn) : Fixed c (u.run c) := by
  cases u with
  | cleanup => exact ⟨rfl, rfl, rfl, rfl, rfl, by dsimp only [Upd.run, Conn.cleanup, R.ok]; cases c.sched <;> rfl⟩
  | arm now p k =>
    dsimp only [Upd.run]; unfold Conn.arm
    cases hs : c.sched with
    | none => exact ⟨rfl, rfl, rfl, rfl, rfl, rfl⟩
    | some s => exact ⟨rfl, rfl, rfl, rfl, rfl, by rw [hs]; rfl⟩
  | ack k => exact ⟨rfl, rfl, rfl, rfl, rfl, by dsimp only [Upd.run]; cases c.sched <;> rfl⟩
  | acks hit => exact ⟨rfl, rfl, rfl, rfl, rfl, by dsimp only [Upd.run]; cases c.sched <;> rfl⟩
  | synAck p => dsimp only [Upd.run]; split <;> exact ⟨rfl, rfl, rfl, rfl, rfl, rfl⟩
  | closing => dsimp only [Upd.run]; split <;> exact ⟨rfl, rfl, rfl, rfl, rfl, rfl⟩
  | _ => exact ⟨rfl, rfl, rfl, rfl, rfl, rfl⟩

theorem Steps.fixed {F : Loc → Prop} {c c' : Conn} (h : Steps F c c') : Fixed c c' :=
  h.frame (fun _ => ⟨rfl, rfl, rfl, rfl, rfl, rfl⟩)
    (fun h1 h2 => ⟨h2.link.trans h1.link, h2.frag.trans h1.frag, h2.limit.trans h1.limit, h2.rt.trans h1.rt, h2.pt.trans h1.pt,
      h2.some.trans h1.some⟩)
    (fun u c _ => u.run_fixed c)

theorem Upd.run_life (u : Upd) (c : Conn) (hl : u.loc ≠ .life) (hp : u.loc ≠ .phase) :
    (u.run c).state = c.state ∧ (u.run c).eof = c.eof := by
  cases u with
  | cleanup => exact absurd rfl hl
  | synAck | connectAck | closing => exact absurd rfl hp
  | arm now p k => dsimp only [Upd.run]; unfold Conn.arm; cases c.sched <;> exact ⟨rfl, rfl⟩
  | _ => exact ⟨rfl, rfl⟩

theorem Upd.run_timers (u : Upd) (c : Conn) :
    ((u.run c).sched = c.sched ∧ (u.run c).ackEvents = c.ackEvents) ∨ u = .cleanup ∨ (∃ now p k, u = .arm now p k) ∨ u.loc = .cancel := by
  cases u with
  | cleanup => exact Or.inr (Or.inl rfl)
  | arm now p k => exact Or.inr (Or.inr (Or.inl ⟨now, p, k, rfl⟩))
  | ack | acks => exact Or.inr (Or.inr (Or.inr rfl))
  | synAck | closing => dsimp only [Upd.run]; split <;> exact Or.inl ⟨rfl, rfl⟩
  | _ => exact Or.inl ⟨rfl, rfl⟩

/-- both ways of cancelling (`handle`'s and `handle_aggregate_ack`'s) drop entries of the acknowledgement table and remove from the
    scheduler handles that the table held -/
theorem Upd.cancel_eq (u : Upd) (c : Conn) (h : u.loc = .cancel) :
    ∃ (acks : List (AckKey × Nat)) (gone : List Nat), (∀ e ∈ acks, e ∈ c.ackEvents) ∧ (∀ g ∈ gone, ∃ e ∈ c.ackEvents, e.2 = g) ∧
      u.run c = { c with ackEvents := acks, sched := c.sched.map (gone.foldl Sched.remove) } := by
  cases u with
  | ack k =>
    refine ⟨_, (ackLookup k c.ackEvents).toList, fun e he => (mem_ackErase.mp he).1, fun g hg => ?_, rfl⟩
    exact ⟨_, mem_of_alookup (ackLookup_eq ▸ Option.mem_toList.mp hg), rfl⟩
  | acks hit =>
    refine ⟨_, (c.ackEvents.filter hit).map (·.2), fun e he => (List.mem_filter.mp he).1, fun g hg => ?_, rfl⟩
    obtain ⟨e, he, rfl⟩ := List.mem_map.mp hg
    exact ⟨e, (List.mem_filter.mp he).1, rfl⟩
  | _ => cases h

theorem assign_steps (c c' : Conn) (p : Packet) (n : Nat) (h : c.assign p = .ok (n, c')) :
    Steps (fun l => l = .snd p.substreamId ∨ l = .aux) c c' := by
  unfold Conn.assign at h
  by_cases hr : hasReliable p.flags = true
  · rw [if_pos hr] at h
    have h1 := Steps.one (F := fun l => l = .snd p.substreamId ∨ l = .aux) (.nextId p.substreamId) c (Or.inl rfl)
    cases hc : c.counters[p.substreamId]? with
    | none => rw [hc] at h; cases h
    | some m => simp only [hc] at h; cases h; dsimp only [Upd.run] at h1; rw [← setAt_eq_modify _ _ _ _ hc] at h1; exact h1
  · rw [if_neg hr] at h
    by_cases hd : p.type = TYPE_DATA
    · rw [if_pos hd] at h; cases h; exact Steps.one .nextUnrel c (Or.inr rfl)
    · rw [if_neg hd] at h
      by_cases hp : p.type = TYPE_PING
      · rw [if_pos hp] at h; cases h; exact Steps.one .nextPing c (Or.inr rfl)
      · rw [if_neg hp] at h; cases h; exact .refl _

theorem encodePayload_steps (env : Env) (c c' : Conn) (p : Packet) (d : Bytes) (h : c.encodePayload env p = .ok (d, c')) :
    Steps (· = .snd p.substreamId) c c' := by
  unfold Conn.encodePayload at h
  by_cases h1 : p.type = TYPE_DATA ∧ (!p.payload.isEmpty) = true
  · rw [if_pos h1] at h
    by_cases h2 : hasReliable p.flags = true
    · rw [if_pos h2] at h
      have s1 := Steps.one (F := (· = .snd p.substreamId)) (.enc p.substreamId (env.compress p.payload).length) c rfl
      cases h3 : c.relCiphers[p.substreamId]? with
      | none => rw [h3] at h; cases h
      | some sc =>
        simp only [h3] at h
        by_cases h4 : c.cipherOn = true
        · rw [if_pos h4] at h; cases h; dsimp only [Upd.run] at s1; rw [← setAt_eq_modify _ _ _ _ h3] at s1; exact s1
        · rw [if_neg h4] at h; cases h; exact .refl _
    · rw [if_neg h2] at h
      by_cases h4 : c.cipherOn = true
      · rw [if_pos h4] at h; cases h; exact .refl _
      · rw [if_neg h4] at h; cases h; exact .refl _
  · rw [if_neg h1] at h; cases h; exact .refl _

/-- the counters and the encryption position `send_packet` may move for a packet with flags `fl` on substream `sub`: none for an
    acknowledgement -/
def idLoc (fl sub : Nat) (l : Loc) : Prop := (hasAck fl || hasMultiAck fl) = false ∧ (l = .snd sub ∨ l = .aux)

theorem assignIf_steps (c c' : Conn) (q : Packet) (n : Nat) (h : c.assignIf q (hasAck q.flags || hasMultiAck q.flags) = .ok (n, c')) :
    Steps (idLoc q.flags q.substreamId) c c' := by
  unfold Conn.assignIf at h
  cases hb : (hasAck q.flags || hasMultiAck q.flags) with
  | true => rw [hb, if_pos rfl] at h; cases h; exact .refl _
  | false => rw [hb, if_neg Bool.false_ne_true] at h; exact (assign_steps _ _ _ _ h).mono (fun _ hl => ⟨hb, hl⟩)

theorem encodeIf_steps (env : Env) (c c' : Conn) (q : Packet) (b : Bool) (d : Bytes) (h : c.encodeIf env q b = .ok (d, c')) :
    Steps (fun l => b = false ∧ l = .snd q.substreamId) c c' := by
  unfold Conn.encodeIf at h
  by_cases hc : q.type = TYPE_DATA ∧ (!b) = true
  · rw [if_pos hc] at h
    exact (encodePayload_steps env _ _ _ _ h).mono (fun _ hl => ⟨by simpa using hc.2, hl⟩)
  · rw [if_neg hc] at h; cases h; exact .refl _

theorem transmit_steps (env : Env) (now : Time) (c : Conn) (p : Packet) :
    Steps (fun l => l = .life ∧ c.linkUp = false ∨
        l = .arm now ∧ ((hasReliable p.flags || p.type == TYPE_SYN) && hasNeedAck p.flags) = true) c (c.transmit env now p).c := by
  rcases transmit_cases env now c p with ⟨hl, e⟩ | ⟨_, e⟩ | ⟨_, e⟩ <;> rw [e]
  · exact Steps.one .cleanup c (Or.inl ⟨rfl, hl⟩)
  · exact .refl _
  · by_cases hw : ((hasReliable p.flags || p.type == TYPE_SYN) && hasNeedAck p.flags) = true
    · rw [if_pos hw]; exact Steps.one (.arm now p 0) c (Or.inr ⟨rfl, hw⟩)
    · rw [if_neg hw]; exact .refl _

/-- `send_packet(p)`: the id and the payload are settled — which moves the counter and the encryption position of `p`'s
    substream, or raises with nothing sent — and then `p`, with addressing, ids, payload and signature filled in, goes to
    `transmit` -/
theorem sendPacket_cases (env : Env) (now : Time) (c : Conn) (p : Packet) :
    ((c.sendPacket env now p).err.isSome ∧ (c.sendPacket env now p).outs = [] ∧
      Steps (idLoc p.flags p.substreamId) c (c.sendPacket env now p).c) ∨
    ∃ c2 q, Steps (idLoc p.flags p.substreamId) c c2 ∧ q.type = p.type ∧ q.flags = p.flags ∧ q.substreamId = p.substreamId ∧
      c.sendPacket env now p = c2.transmit env now q := by
  unfold Conn.sendPacket
  simp only []
  generalize hA : Conn.assignIf c _ _ = ra
  cases ra with
  | error e => exact Or.inl ⟨rfl, rfl, .refl _⟩
  | ok v =>
    obtain ⟨pid, c1⟩ := v
    have h1 : Steps (idLoc p.flags p.substreamId) c c1 := assignIf_steps _ _ _ _ hA
    simp only []
    generalize hE : Conn.encodeIf env c1 _ _ = re
    cases re with
    | error e => exact Or.inl ⟨rfl, rfl, h1⟩
    | ok w =>
      obtain ⟨payload, c2⟩ := w
      have h2 : Steps (idLoc p.flags p.substreamId) c1 c2 := by
        refine (encodeIf_steps env _ _ _ _ _ hE).mono (fun l hl => ⟨hl.1, Or.inl (hl.2.trans ?_)⟩)
        split <;> rfl
      refine Or.inr ⟨c2, _, h1.trans h2, ?_, ?_, ?_, rfl⟩
      · split <;> rfl
      · split <;> rfl
      · split <;> rfl

/-- the places the send path of substream `sub` may write at instant `now`: the counter and the encryption position of `sub`, the
    other counters, a new retransmission timer, and `cleanup` when the link is found down (`up` is the link flag) -/
def sendLoc (now : Time) (up : Bool) (sub : Nat) (l : Loc) : Prop :=
  l = .life ∧ up = false ∨ l = .arm now ∨ l = .snd sub ∨ l = .aux

theorem sendLoc.weaken {now : Time} {up : Bool} {sub : Nat} {l : Loc} (h : sendLoc now up sub l) : sendLoc now false sub l :=
  h.imp_left fun h => ⟨h.1, rfl⟩

theorem sendLoc.ne {now : Time} {up : Bool} {sub : Nat} {l : Loc} (h : sendLoc now up sub l) : l ≠ .cancel ∧ l ≠ .phase := by
  rcases h with ⟨rfl, _⟩ | rfl | rfl | rfl <;> exact ⟨Loc.noConfusion, Loc.noConfusion⟩

theorem sendPacket_steps (env : Env) (now : Time) (c : Conn) (p : Packet) {sub : Nat} (hs : p.substreamId = sub) :
    Steps (sendLoc now c.linkUp sub) c (c.sendPacket env now p).c := by
  subst hs
  rcases sendPacket_cases env now c p with ⟨_, _, h⟩ | ⟨c2, q, h, _, _, _, heq⟩
  · exact h.mono (fun _ hl => Or.inr (Or.inr hl.2))
  · rw [heq]
    refine (h.mono (fun _ hl => Or.inr (Or.inr hl.2))).trans ((transmit_steps env now c2 q).mono ?_)
    rintro l (⟨hl, hup⟩ | ⟨hl, _⟩)
    · exact Or.inl ⟨hl, by rw [← h.fixed.link]; exact hup⟩
    · exact Or.inr (Or.inl hl)

/-- `send_ack`: an acknowledgement goes out without a counter, a cipher or a timer; sending it can only find the link down -/
theorem sendAck_steps (env : Env) (now : Time) (c : Conn) (p : Packet) :
    Steps (fun l => l = .life ∧ c.linkUp = false) c (c.sendAck env now p).c := by
  have h1 : ∀ a : Packet, a.flags = FLAG_ACK → ∀ x : Conn, Steps (fun l => l = .life ∧ c.linkUp = false) c x →
      Steps (fun l => l = .life ∧ c.linkUp = false) x (x.sendPacket env now a).c := by
    intro a hf x hx
    have hid : ∀ l, ¬ idLoc a.flags a.substreamId l := fun _ h => by rw [hf] at h; exact absurd h.1 (by decide)
    rcases sendPacket_cases env now x a with ⟨_, _, h⟩ | ⟨c2, q, h, _, hq, _, heq⟩
    · exact h.mono (fun l hl => absurd hl (hid l))
    · rw [heq]
      refine (h.mono (fun l hl => absurd hl (hid l))).trans ((transmit_steps env now c2 q).mono ?_)
      rintro l (⟨hl, hup⟩ | ⟨_, hw⟩)
      · exact ⟨hl, by rw [← hx.fixed.link, ← h.fixed.link]; exact hup⟩
      · rw [hq, hf, show hasNeedAck FLAG_ACK = false by decide, Bool.and_false] at hw; cases hw
  unfold Conn.sendAck
  by_cases hd : p.type = TYPE_DISCONNECT
  · rw [if_pos hd]
    exact Steps.bind' (Steps.bind' (h1 _ rfl c (.refl _)) (h1 _ rfl)) (h1 _ rfl)
  · rw [if_neg hd]; exact h1 _ rfl c (.refl _)

theorem sendFrags_steps (env : Env) (now : Time) (sub : Nat) : ∀ (fs : List Chan.Frag) (c : Conn),
    Steps (sendLoc now c.linkUp sub) c (Conn.sendFrags env now sub fs c).c := by
  intro fs
  induction fs with
  | nil => intro c; exact .refl _
  | cons f fs ih =>
    intro c
    exact Steps.bind' (sendPacket_steps env now c _ rfl) (fun x hx => by rw [← hx.fixed.link]; exact ih x)

theorem send_steps (env : Env) (now : Time) (c : Conn) (data : Bytes) (sub : Nat) :
    Steps (sendLoc now c.linkUp sub) c (c.send env now data sub).c := by
  exact .ite (fun _ => .refl _) fun _ => .ite (fun _ => .refl _) fun _ => sendFrags_steps env now sub _ c

theorem sendUnreliable_steps (env : Env) (now : Time) (c : Conn) (data : Bytes) :
    Steps (sendLoc now c.linkUp 0) c (c.sendUnreliable env now data).c := by
  unfold Conn.sendUnreliable
  exact .ite (fun _ => .refl _) fun _ => sendPacket_steps env now c _ rfl

/-- `close()`: three DISCONNECT packets, then `cleanup` whatever the link -/
theorem close_steps (env : Env) (now : Time) (c : Conn) : Steps (sendLoc now false 0) c (c.close env now).c := by
  have h1 : ∀ x : Conn, Steps (sendLoc now false 0) x (x.sendPacket env now (mkPacket TYPE_DISCONNECT 0)).c :=
    fun x => (sendPacket_steps env now x _ rfl).mono fun _ => sendLoc.weaken
  exact .ite (fun _ => .refl _) fun _ =>
    Steps.bind (Steps.bind (Steps.bind (h1 c) h1) h1) (fun x => Steps.one .cleanup x (Or.inl ⟨rfl, rfl⟩))

/-- `disconnect()`: the state moves to DISCONNECTING and a reliable DISCONNECT goes out on substream 0 -/
theorem disconnect_steps (env : Env) (now : Time) (c : Conn) :
    Steps (fun l => l = .phase ∨ sendLoc now c.linkUp 0 l) c (c.disconnect env now).c := by
  refine .ite (fun _ => .refl _) fun hs => ?_
  have h1 := Steps.one (F := fun l => l = .phase ∨ sendLoc now c.linkUp 0 l) .closing c (Or.inl rfl)
  dsimp only [Upd.run] at h1; rw [if_pos (Decidable.not_not.mp hs)] at h1
  exact h1.trans ((sendPacket_steps env now _ _ rfl).mono (fun _ => Or.inr))

/-- a retransmission re-arms or gives up, a keep-alive is a reliable packet of substream 0, and an exception in either ends the
    connection: the send path of substream 0 with `cleanup` allowed whatever the link -/
theorem fireOne_steps (env : Env) (now : Time) (c : Conn) (a : Action) : Steps (sendLoc now false 0) c (c.fireOne env now a).c := by
  have hf : Steps (sendLoc now false 0) c (c.fire env now a).c := by
    cases a with
    | resend p k =>
      rw [Conn.fire]
      rcases resendPacket_cases env now c p k with e | ⟨_, e⟩ <;> rw [e]
      · exact Steps.one .cleanup c (Or.inl ⟨rfl, rfl⟩)
      · exact Steps.one (.arm now p (k + 1)) c (Or.inr (Or.inl rfl))
    | ping => exact (sendPacket_steps env now c _ rfl).mono fun _ => sendLoc.weaken
  unfold Conn.fireOne
  simp only []
  cases (c.fire env now a).err with
  | none => exact hf
  | some e => exact hf.trans (Steps.one .cleanup _ (Or.inl ⟨rfl, rfl⟩))

theorem fireAll_steps (env : Env) (now : Time) : ∀ (as : List Action) (c : Conn),
    Steps (sendLoc now false 0) c (Conn.fireAll env now as c).c := by
  intro as
  induction as with
  | nil => exact fun c => .refl _
  | cons a as ih => exact fun c => (fireOne_steps env now c a).trans (ih _)

theorem decodePayload_steps (env : Env) (c c' : Conn) (p : Packet) (d : Bytes) (h : c.decodePayload env p = .ok (d, c')) :
    Steps (· = .rcv p.substreamId) c c' := by
  rcases decodePayload_conn env c c' p d h with rfl | ⟨sc, hsc, rfl⟩
  · exact .refl _
  · have h1 := Steps.one (F := (· = .rcv p.substreamId)) (.dec p.substreamId p.payload.length) c rfl
    dsimp only [Upd.run] at h1; rw [← setAt_eq_modify _ _ _ _ hsc] at h1; exact h1

/-- induction over the release loop, wherever it stops: `P` need only be kept by `PayloadEncoder.decode` of the packets at hand, the
    two buffer updates and `cleanup()`; the loop raises what `decode` raised in such a state, or the closed-resource error (a
    message completed behind a released DISCONNECT) -/
theorem consume_invariant (env : Env) (sub : Nat) (P : Conn → Prop) : ∀ (rel : List Packet),
    (∀ c p d c1, p ∈ rel → P c → c.decodePayload env p = .ok (d, c1) → P c1) →
    (∀ c b, P c → P { c with fragBufs := setAt c.fragBufs sub b }) →
    (∀ c b q, P c → c.eof = false → P { c with fragBufs := setAt c.fragBufs sub b, queues := setAt c.queues sub q }) →
    (∀ c, P c → P c.cleanup.c) → ∀ c : Conn, P c →
    P (Conn.consume env sub rel c).c ∧ ∀ e, (Conn.consume env sub rel c).err = some e →
      e = .closed ∨ ∃ x p, P x ∧ p ∈ rel ∧ x.decodePayload env p = .error e := by
  intro rel
  induction rel with
  | nil => intro _ _ _ _ c h; exact ⟨h, nofun⟩
  | cons p ps ih =>
    intro hdec hbuf hput hclean c h
    have ih : ∀ x, P x → P (Conn.consume env sub ps x).c ∧ ∀ e, (Conn.consume env sub ps x).err = some e →
        e = .closed ∨ ∃ y q, P y ∧ q ∈ p :: ps ∧ y.decodePayload env q = .error e := fun x hx =>
      (ih (fun c q d c1 hq => hdec c q d c1 (List.mem_cons_of_mem _ hq)) hbuf hput hclean x hx).imp_right fun he e h =>
        (he e h).imp_right fun ⟨y, q, hy, hq, hd⟩ => ⟨y, q, hy, List.mem_cons_of_mem _ hq, hd⟩
    rw [Conn.consume]
    by_cases ht : p.type = TYPE_DATA
    · rw [if_pos ht]
      cases hd : c.decodePayload env p with
      | error e => exact ⟨h, fun e' he => Or.inr ⟨c, p, h, List.mem_cons_self, by cases he; exact hd⟩⟩
      | ok v =>
        obtain ⟨data, c1⟩ := v
        have h1 := hdec c p data c1 List.mem_cons_self h hd
        by_cases hf : p.fragmentId = 0
        · by_cases he : c1.eof = true
          · simp only [if_pos hf, if_pos he]; exact ⟨hbuf c1 _ h1, fun e he => by cases he; exact Or.inl rfl⟩
          · simp only [if_pos hf, if_neg he, R.bind, R.ok]; exact ih _ (hput c1 _ _ h1 (Bool.eq_false_iff.mpr he))
        · simp only [if_neg hf]; exact ih _ (hbuf c1 _ h1)
    · rw [if_neg ht]
      by_cases hx : p.type = TYPE_DISCONNECT
      · simp only [if_pos hx, R.bind, show c.cleanup.err = none from rfl]; exact ih _ (hclean c h)
      · rw [if_neg hx]; exact ih c h

/-- the places the receive path may write: the receiver side of the substreams in `S`, and `cleanup` (a DISCONNECT) -/
def recvLoc (S : Nat → Prop) (l : Loc) : Prop := l = .life ∨ ∃ i, S i ∧ l = .rcv i

theorem recvLoc.mono {S T : Nat → Prop} (h : ∀ i, S i → T i) {l : Loc} : recvLoc S l → recvLoc T l :=
  Or.imp_right fun ⟨i, hi, e⟩ => ⟨i, h i hi, e⟩

theorem recvLoc.ne_phase {S : Nat → Prop} {l : Loc} (h : recvLoc S l) : l ≠ .phase := by
  rcases h with rfl | ⟨_, _, rfl⟩ <;> exact Loc.noConfusion

/-- the release loop of substream `sub` writes that substream and those the packets it is handed claim to be of (`decode` moves
    the cipher of the packet's own `substream_id`) -/
theorem consume_steps (env : Env) (sub : Nat) (rel : List Packet) (c : Conn) :
    Steps (recvLoc fun i => i = sub ∨ ∃ q ∈ rel, q.substreamId = i) c (Conn.consume env sub rel c).c ∧
    ∀ e, (Conn.consume env sub rel c).err = some e → e = .closed ∨
      ∃ x p, Steps (recvLoc fun i => i = sub ∨ ∃ q ∈ rel, q.substreamId = i) c x ∧ p ∈ rel ∧ x.decodePayload env p = .error e :=
  consume_invariant env sub (Steps (recvLoc fun i => i = sub ∨ ∃ q ∈ rel, q.substreamId = i) c) rel
    (fun x p d x1 hp h hd => h.trans ((decodePayload_steps env x x1 p d hd).mono fun _ hl => Or.inr ⟨_, Or.inr ⟨p, hp, rfl⟩, hl⟩))
    (fun x b h => h.trans (Steps.one (.buffer sub b) x (Or.inr ⟨sub, Or.inl rfl, rfl⟩)))
    (fun x b q h _ => h.trans (Steps.one (.deliver sub b q) x (Or.inr ⟨sub, Or.inl rfl, rfl⟩)))
    (fun x h => h.trans (Steps.one .cleanup x (Or.inl rfl))) c (.refl c)

/-- `process_reliable(p)` writes the receiver side of `p`'s substream and of whatever substreams the packets waiting in that
    window claim to be of -/
theorem processReliable_steps (env : Env) (c : Conn) (p : Packet) :
    Steps (recvLoc fun i => i = p.substreamId ∨ ∃ w kq, c.windows[p.substreamId]? = some w ∧ kq ∈ w.packets ∧ kq.2.substreamId = i)
      c (c.processReliable env p).c := by
  cases hw : c.windows[p.substreamId]? with
  | none => rw [processReliable_none env c p hw]; exact .refl _
  | some w =>
    cases hu : w.update p.packetId p with
    | mk w' rel =>
      rw [processReliable_eq env c p hw hu]
      refine (Steps.one (.window p.substreamId w') c (Or.inr ⟨_, Or.inl rfl, rfl⟩)).trans
        ((consume_steps env _ rel _).1.mono fun _ => recvLoc.mono ?_)
      rintro i (h | ⟨q, hq, h⟩)
      · exact Or.inl h
      · rcases Chan.update_mem w _ _ q (by rw [hu]; exact hq) with e | ⟨k, hk⟩
        · exact Or.inl (by rw [← h, e])
        · exact Or.inr ⟨w, (k, q), rfl, hk, h⟩

theorem handleAggregateAck_steps (env : Env) (c : Conn) (p : Packet) : Steps (· = .cancel) c (c.handleAggregateAck env p).c := by
  refine .ite (fun _ => .refl _) fun _ => .ite (fun _ => .refl _) fun _ => .ite (fun _ => .refl _) fun _ => ?_
  simp only []
  split
  · exact .refl _
  · split <;> exact Steps.one (F := (· = .cancel)) (.acks _) c rfl

theorem ackTail_steps (p : Packet) (c : Conn) :
    Steps (fun l => l = .cancel ∨ l = .life ∧ p.type = TYPE_DISCONNECT) c (c.ackTail p).c := by
  unfold Conn.ackTail
  by_cases ha : hasAck p.flags = true
  · rw [if_pos ha]
    have h1 := Steps.one (F := fun l => l = .cancel ∨ l = .life ∧ p.type = TYPE_DISCONNECT) (.ack (ackKeyOf p)) c (Or.inl rfl)
    cases hl : ackLookup (ackKeyOf p) c.ackEvents with
    | none => exact .refl _
    | some h =>
      dsimp only [Upd.run] at h1; rw [hl] at h1
      simp only []
      by_cases hd : p.type = TYPE_DISCONNECT
      · rw [if_pos hd]; exact h1.trans (Steps.one .cleanup _ (Or.inr ⟨rfl, hd⟩))
      · rw [if_neg hd]; exact h1
  · rw [if_neg ha]; exact .refl _

/-- the places `process_other(p)` may write, by the flags of `p`: an aggregate acknowledgement cancels timers, a plain one does
    nothing here (its timer goes in the tail of `handle`), anything else is acknowledged (which can find the link down) and then
    received -/
def otherLoc (p : Packet) (l : Loc) : Prop :=
  if hasMultiAck p.flags then l = .cancel
  else if hasAck p.flags then False
  else l = .aux ∨ recvLoc (fun _ => True) l

theorem processOther_steps (env : Env) (now : Time) (c : Conn) (p : Packet) : Steps (otherLoc p) c (c.processOther env now p).c := by
  unfold Conn.processOther otherLoc
  by_cases h3 : p.signature ≠ env.packetSig c.codec p c.sessionKey (env.connSig c.codec c.remoteAddr)
  · rw [if_pos h3]; exact .refl _
  rw [if_neg h3]
  by_cases hm : hasMultiAck p.flags = true
  · simp only [hm, if_true]; exact handleAggregateAck_steps env c p
  rw [if_neg hm]; simp only [hm]
  by_cases h4 : p.substreamId > c.maxSub
  · rw [if_pos h4]; exact .refl _
  rw [if_neg h4]
  by_cases h5 : some p.sessionId ≠ c.remoteSessionId
  · rw [if_pos h5]; exact .refl _
  rw [if_neg h5]
  by_cases ha : hasAck p.flags = true
  · rw [if_pos ha]; exact .refl _
  rw [if_neg ha]; simp only [ha]
  have hack : Steps (fun l => l = .aux ∨ recvLoc (fun _ => True) l) c
      (if hasNeedAck p.flags = true then c.sendAck env now p else R.ok c).c := by
    by_cases hn : hasNeedAck p.flags = true
    · rw [if_pos hn]; exact (sendAck_steps env now c p).mono (fun _ h => Or.inr (Or.inl h.1))
    · rw [if_neg hn]; exact .refl _
  refine Steps.bind hack (fun x => ?_)
  by_cases hr : hasReliable p.flags = true
  · rw [if_pos hr]; exact (processReliable_steps env x p).mono fun _ h => Or.inr (h.mono fun _ _ => trivial)
  rw [if_neg hr]
  by_cases hd : p.type = TYPE_DATA
  · rw [if_pos hd]
    cases hdec : x.decodePayload env p with
    | error e => exact .refl _
    | ok v =>
      obtain ⟨data, c1⟩ := v
      have h1 := (decodePayload_steps env x c1 p data hdec).mono (G := fun l => l = .aux ∨ recvLoc (fun _ => True) l)
        (fun _ h => Or.inr (Or.inr ⟨_, trivial, h⟩))
      simp only []
      by_cases he : c1.eof = true
      · rw [if_pos he]; exact h1
      · rw [if_neg he]; exact h1.trans (Steps.one (.deliverU data) c1 (Or.inl rfl))
  rw [if_neg hd]
  by_cases hdis : p.type = TYPE_DISCONNECT
  · rw [if_pos hdis]; exact Steps.one .cleanup x (Or.inr (Or.inl rfl))
  · rw [if_neg hdis]; exact .refl _

/-- **an acknowledgement** (ACK or MULTI_ACK flag, not of the handshake; genuine, stale, coalesced or forged) **only cancels
    retransmission timers** — and ends the connection if it acknowledges a DISCONNECT -/
theorem handle_ack_steps (env : Env) (now : Time) (c : Conn) (p : Packet) (hack : (hasAck p.flags || hasMultiAck p.flags) = true)
    (hns : p.type ≠ TYPE_SYN) (hnc : p.type ≠ TYPE_CONNECT) :
    Steps (fun l => l = .cancel ∨ l = .life ∧ p.type = TYPE_DISCONNECT) c (c.handle env now p).c := by
  rcases handle_other env now c p hns hnc with h | h
  · rw [h.1]; exact .refl _
  rw [h]
  refine Steps.bind ((processOther_steps env now c p).mono fun l hl => Or.inl ?_) (ackTail_steps p)
  unfold otherLoc at hl
  cases hm : hasMultiAck p.flags with
  | true => rw [hm, if_pos rfl] at hl; exact hl
  | false =>
    rw [hm, Bool.or_false] at hack
    rw [hm, if_pos hack] at hl; exact hl.elim

/-- **receiving a packet without ACK flags** (not of the handshake) writes the receiver side of substreams and the unreliable
    queue, and may end the connection (link found down by the acknowledgement, a DISCONNECT): no counter, no encryption
    position, no timer -/
theorem handle_noack_steps (env : Env) (now : Time) (c : Conn) (p : Packet) (hns : p.type ≠ TYPE_SYN) (hnc : p.type ≠ TYPE_CONNECT)
    (ha : hasAck p.flags = false) (hm : hasMultiAck p.flags = false) :
    Steps (fun l => l = .aux ∨ recvLoc (fun _ => True) l) c (c.handle env now p).c := by
  rcases handle_other env now c p hns hnc with h | h
  · rw [h.1]; exact .refl _
  rw [h]
  refine Steps.bind ((processOther_steps env now c p).mono fun l hl => ?_) (fun x => by rw [ackTail_of_not_ack p x ha]; exact .refl _)
  unfold otherLoc at hl
  rw [hm, ha] at hl; exact hl

/-- `handle(p)` of any packet is a sequence of updates; what the keep-alive invariants need is no more than that -/
theorem handle_steps (env : Env) (now : Time) (c : Conn) (p : Packet) : Steps (fun _ => True) c (c.handle env now p).c := by
  rw [handle_eq]
  refine .ite (fun _ => .refl _) fun hd => .ite (fun _ => .refl _) fun _ => ?_
  refine Steps.bind ?_ (fun x => (ackTail_steps p x).mono fun _ _ => trivial)
  unfold Conn.process
  by_cases h0 : p.type = TYPE_SYN
  · rw [if_pos h0]
    by_cases hv : c.synValid env p
    · rw [Conn.processSyn_valid env now c p hv]
      by_cases hl : (ackLookup (ackKeyOf p) c.ackEvents).isSome = true
      · rw [if_pos hl]
        have h1 := Steps.one (F := fun _ => True) (.synAck p) c trivial
        dsimp only [Upd.run] at h1; rw [if_neg hd] at h1
        exact h1.trans ((sendPacket_steps env now _ _ rfl).mono fun _ _ => trivial)
      · rw [if_neg hl]; exact .refl _
    · rw [Conn.processSyn_invalid env now c p hv]; exact .refl _
  rw [if_neg h0]
  by_cases h1 : p.type = TYPE_CONNECT
  · rw [if_pos h1]
    by_cases hv : c.connectValid env p
    · rw [Conn.processConnect_valid env c p hv]
      by_cases hl : (ackLookup (ackKeyOf p) c.ackEvents).isSome = true
      · rw [if_pos hl]
        cases c.checkConnectionResponse p.payload with
        | some e => exact .refl _
        | none => exact Steps.one (F := fun _ => True) (.connectAck p.sessionId) c trivial
      · rw [if_neg hl]; exact .refl _
    · rw [Conn.processConnect_invalid env c p hv]; exact .refl _
  · rw [if_neg h1]; exact (processOther_steps env now c p).mono fun _ _ => trivial

end Nx.L1
