import NxModel.Nex.RmcServerObj
import NxProofs.Rmc
/-! The RMC server model (C11). `react` (= `handle_request`): one lemma per row of its decision table, the exception rows all
through `react_raised` (a failure whose `Result` code has the error bit is answered with the reference error frame);
`react_answer` / `serve_answerable`: answerable requests are answered one by one and never end the loop. The generated
dispatch: `findMethod` compares the whole id, so nothing aliases; `invoked` says which user code runs. -/
namespace Nx.RmcServer
open Nx.Rmc

/-- the request fields as `RMCMessage.decode` produces them -/
structure ReqWF (req : Msg) (m : Nat) : Prop where
  proto : req.protocol < 65536
  call : req.callId < 4294967296
  meth : req.method = some m

/-- what the property quantifies over: a handler result that `handle_request` is meant to answer -/
def Answerable (m : Nat) : HandleResult → Prop
  | .returned out => m < 32768 ∧ out.length + 12 < 4294967296
  | .raised (.rmcError c) => 2147483648 ≤ c ∧ c < 4294967296
  | .raised .base => False
  | .raised _ => True

/-- `bit31` is the second conjunct of `Rmc.hasErrorBit` -/
theorem bit31_of_nat (e : Nat) (h1 : 2147483648 ≤ e) (h2 : e < 4294967296) : bit31 (e : Int) = true := by
  have h : ((e : Int) != -1 && bit31 (e : Int)) = true := hasErrorBit_of_nat e h1 h2
  exact (Bool.and_eq_true _ _ ▸ h).2

theorem bit31_errorResult (c : Nat) (h : c < 2147483648) : bit31 (errorResult c) = true :=
  bit31_of_nat _ (by omega) (by omega)

theorem send_failure (req : Msg) (m e : Nat) (w : ReqWF req m) (he1 : 2147483648 ≤ e) (he2 : e < 4294967296) :
    sendMsg (responseMsg req (e : Int) out) = .sends (specEncode (.failure req.protocol req.callId e)) := by
  unfold sendMsg responseMsg
  simp only [bit31_of_nat e he1 he2, Bool.not_true, Bool.false_eq_true, if_false]
  rw [encode_failure _ _ _ _ _ w.proto w.call he1 he2]

theorem send_success (req : Msg) (m : Nat) (w : ReqWF req m) (out : Bytes) (hm : m < 32768)
    (hb : out.length + 12 < 4294967296) :
    sendMsg (responseMsg req 0x10001 out) = .sends (specEncode (.success req.protocol req.callId m out)) := by
  unfold sendMsg responseMsg
  have hb31 : bit31 (0x10001 : Int) = false := by decide
  simp only [hb31, Bool.not_false, if_true]
  have := encode_ofSpec (.success req.protocol req.callId m out) ⟨w.proto, w.call, hm, hb⟩
  simp only [ofSpec] at this
  rw [w.meth, this]

section rows
variable {servers : Registry} {req : Msg} {m : Nat}

theorem react_unregistered (w : ReqWF req m) (hp : regLookup req.protocol servers = none) (h : HandleResult) :
    react servers req h = .sends (specEncode (.failure req.protocol req.callId 0x80010002)) := by
  simp only [react, hp]
  exact send_failure req m _ w (by decide) (by decide)

theorem react_returned (w : ReqWF req m) (hp : regLookup req.protocol servers = some false) (out : Bytes)
    (hm : m < 32768) (hb : out.length + 12 < 4294967296) :
    react servers req (.returned out) = .sends (specEncode (.success req.protocol req.callId m out)) := by
  simp only [react, hp, resultCode]
  exact send_success req m w out hm hb

theorem react_noresponse (hp : regLookup req.protocol servers = some true) (h : HandleResult)
    (hb : h ≠ .raised .base) : react servers req h = .silent := by
  unfold react
  simp only [hp]
  cases h with
  | returned o => simp [resultCode]
  | raised e => cases e <;> simp_all [resultCode]

theorem react_base (nr : Bool) (hp : regLookup req.protocol servers = some nr) :
    react servers req (.raised .base) = .propagates := by
  simp [react, hp, resultCode]

theorem react_raised (w : ReqWF req m) (hp : regLookup req.protocol servers = some false) (e : Exc) (code : Nat)
    (hc : resultCode (.raised e) = some (code : Int)) (hr : 2147483648 ≤ code ∧ code < 4294967296) :
    react servers req (.raised e) = .sends (specEncode (.failure req.protocol req.callId code)) := by
  simp only [react, hp, hc]
  exact send_failure req m code w hr.1 hr.2

theorem react_rmcError (w : ReqWF req m) (hp : regLookup req.protocol servers = some false) (code : Nat)
    (h1 : 2147483648 ≤ code) (h2 : code < 4294967296) :
    react servers req (.raised (.rmcError code)) = .sends (specEncode (.failure req.protocol req.callId code)) :=
  react_raised w hp _ code rfl ⟨h1, h2⟩

theorem resultCode_of_answerable {e : Exc} (ha : Answerable m (.raised e)) :
    ∃ code : Nat, resultCode (.raised e) = some (code : Int) ∧ 2147483648 ≤ code ∧ code < 4294967296 := by
  cases e with
  | rmcError c =>
    obtain ⟨h1, h2⟩ := ha
    exact ⟨c.toNat, congrArg some (Int.toNat_of_nonneg (by omega)).symm, by omega, by omega⟩
  | base => exact ha.elim
  | _ => exact ⟨_, rfl, by decide⟩

theorem react_answer (w : ReqWF req m) (h : HandleResult) (ha : Answerable m h) :
    (regLookup req.protocol servers = some true ∧ react servers req h = .silent) ∨
    (regLookup req.protocol servers ≠ some true ∧
      ∃ s : Spec, s.WF ∧ react servers req h = .sends (specEncode s) ∧
        (ofSpec s).mode = 1 ∧ (ofSpec s).protocol = req.protocol ∧ (ofSpec s).callId = req.callId) := by
  cases hp : regLookup req.protocol servers with
  | none =>
    right
    refine ⟨by simp, .failure req.protocol req.callId 0x80010002, ⟨w.proto, w.call, by decide, by decide⟩,
      react_unregistered w hp h, rfl, rfl, rfl⟩
  | some nr =>
    cases nr with
    | true =>
      left
      refine ⟨rfl, react_noresponse hp h ?_⟩
      intro e; subst e; exact ha
    | false =>
      right
      refine ⟨by simp, ?_⟩
      cases h with
      | returned out =>
        obtain ⟨hm, hb⟩ := ha
        exact ⟨.success req.protocol req.callId m out, ⟨w.proto, w.call, hm, hb⟩, react_returned w hp out hm hb, rfl, rfl, rfl⟩
      | raised e =>
        obtain ⟨code, hc, hr⟩ := resultCode_of_answerable ha
        exact ⟨.failure req.protocol req.callId code, ⟨w.proto, w.call, hr⟩, react_raised w hp e code hc hr, rfl, rfl, rfl⟩

theorem react_ne_propagates (w : ReqWF req m) (h : HandleResult) (ha : Answerable m h) :
    react servers req h ≠ .propagates := by
  rcases react_answer (servers := servers) w h ha with ⟨_, hs⟩ | ⟨_, s, _, hs, _⟩ <;> simp [hs]

end rows

theorem serve_cons {servers : Registry} {x : Msg × HandleResult} (rest : List (Msg × HandleResult))
    (h : react servers x.1 x.2 ≠ .propagates) :
    serve servers (x :: rest) = react servers x.1 x.2 :: serve servers rest := by
  obtain ⟨req, hr⟩ := x
  cases hreact : react servers req hr with
  | propagates => exact absurd hreact h
  | sends d => simp only [serve, hreact]
  | silent => simp only [serve, hreact]

theorem serve_answerable (servers : Registry) (a b : List (Msg × HandleResult))
    (ha : ∀ x ∈ a, ∃ m, ReqWF x.1 m ∧ Answerable m x.2) :
    serve servers (a ++ b) = a.map (fun x => react servers x.1 x.2) ++ serve servers b := by
  induction a with
  | nil => rfl
  | cons x rest ih =>
    obtain ⟨m, w, hans⟩ := ha x List.mem_cons_self
    rw [List.cons_append, serve_cons _ (react_ne_propagates w x.2 hans), ih fun y hy => ha y (List.mem_cons_of_mem _ hy),
      List.map_cons, List.cons_append]

theorem serve_eq_map (servers : Registry) (reqs : List (Msg × HandleResult))
    (hall : ∀ x ∈ reqs, ∃ m, ReqWF x.1 m ∧ Answerable m x.2) :
    serve servers reqs = reqs.map fun x => react servers x.1 x.2 := by
  simpa [serve] using serve_answerable servers reqs [] hall

theorem serveInc_dead (servers : Registry) (l : List (Msg × HandleResult)) : serveInc servers false l = [] := by
  induction l with
  | nil => rfl
  | cons x rest ih => simp [serveInc, serveStep, ih]

theorem serve_eq_serveInc (servers : Registry) (l : List (Msg × HandleResult)) :
    serve servers l = serveInc servers true l := by
  induction l with
  | nil => rfl
  | cons x rest ih =>
    obtain ⟨req, h⟩ := x
    simp only [serve, serveInc, serveStep, if_true]
    cases hr : react servers req h with
    | propagates => simp [serveInc_dead]
    | sends d => simp [ih]
    | silent => simp [ih]

theorem gen_unknown_method (srv : Server) (mid : Nat) (ex : Option Exc) (u : User)
    (h : findMethod mid srv.methods = none) : generatedHandle srv mid ex u = notImplemented := by
  simp [generatedHandle, h]

theorem gen_extract_fails (srv : Server) (mid : Nat) (e : Exc) (u : User) (mt : Method)
    (h : findMethod mid srv.methods = some mt) (hs : mt.supported = true) :
    generatedHandle srv mid (some e) u = .raised e := by
  simp [generatedHandle, h, hs]

theorem gen_returns_good (srv : Server) (mid : Nat) (enc : HandleResult) (mt : Method)
    (h : findMethod mid srv.methods = some mt) (hs : mt.supported = true) :
    generatedHandle srv mid none (.returns .good enc) = if mt.resp = .none then .returned [] else enc := by
  simp only [generatedHandle, h, hs]
  cases hr : mt.resp <;> simp

theorem findMethod_eq (mid : Nat) (l : List Method) : findMethod mid l = l.find? fun m => m.id = mid := by
  induction l with
  | nil => rfl
  | cons a r ih => by_cases h : a.id = mid <;> simp [findMethod, h, ih]

theorem findMethod_some {mid : Nat} {l : List Method} {mt : Method} (h : findMethod mid l = some mt) :
    mt ∈ l ∧ mt.id = mid := by
  rw [findMethod_eq] at h
  exact ⟨List.mem_of_find?_eq_some h, by simpa using List.find?_some h⟩

theorem natsDistinct_iff (l : List Nat) : natsDistinct l = true ↔ l.Nodup := by
  induction l with
  | nil => simp [natsDistinct]
  | cons a l ih => simp [natsDistinct, ih]

theorem findMethod_of_mem {l : List Method} (hd : natsDistinct (l.map (·.id)) = true) {mt : Method} (hm : mt ∈ l) :
    findMethod mt.id l = some mt := by
  rw [findMethod_eq]
  exact find?_beq_of_nodup_map Method.id ((natsDistinct_iff _).mp hd) hm

theorem findMethod_none_iff {mid : Nat} {l : List Method} : findMethod mid l = none ↔ mid ∉ l.map (·.id) := by
  simp [findMethod_eq]

theorem findMethod_none_of_ge {srv : Server} (hfit : srv.methodIdsFit = true) {mid : Nat} (h : 32768 ≤ mid) :
    findMethod mid srv.methods = none := by
  refine findMethod_none_iff.mpr fun hm => ?_
  obtain ⟨mt, hmt, he⟩ := List.mem_map.mp hm
  have := of_decide_eq_true (List.all_eq_true.mp hfit mt hmt)
  omega

theorem invoked_unknown (srv : Server) (mid : Nat) (ex : Option Exc) (h : findMethod mid srv.methods = none) :
    invoked srv mid ex = none := by
  simp [invoked, h]

theorem invoked_some_iff (srv : Server) (mid : Nat) (ex : Option Exc) (k : Nat) :
    invoked srv mid ex = some k ↔
      k = mid ∧ ex = none ∧ ∃ mt, findMethod mid srv.methods = some mt ∧ mt.supported = true := by
  unfold invoked
  cases hf : findMethod mid srv.methods with
  | none => simp
  | some mt =>
    have hid := (findMethod_some hf).2
    cases hs : mt.supported <;> cases ex <;> simp [hs, hid] <;> omega

theorem not_invoked_user_irrelevant (srv : Server) (mid : Nat) (ex : Option Exc) (h : invoked srv mid ex = none)
    (u u' : User) : generatedHandle srv mid ex u = generatedHandle srv mid ex u' := by
  unfold invoked at h
  unfold generatedHandle
  cases hf : findMethod mid srv.methods with
  | none => rfl
  | some mt =>
    simp only [hf] at h
    cases hs : mt.supported
    · simp [hs]
    · cases ex with
      | none => simp [hs] at h
      | some e => simp [hs]

theorem findServer_some {p : Nat} {l : List Server} {s : Server} (h : findServer p l = some s) :
    s ∈ l ∧ s.protocol = p := by
  induction l with
  | nil => simp [findServer] at h
  | cons a r ih =>
    simp only [findServer] at h
    split at h
    · simp_all
    · have := ih h; simp [this]

/-- the registry `react` consults and the table `dispatch` consults agree on which protocols are registered -/
theorem regLookup_registryOf (p : Nat) (l : List Server) :
    regLookup p (registryOf l) = (findServer p l).map (·.noresponse) := by
  induction l with
  | nil => rfl
  | cons a r ih =>
    simp only [registryOf, List.map_cons, regLookup, findServer]
    split
    · rfl
    · simpa [registryOf] using ih

/-- what `handle()` did, as `react` is given it (`handle_request` consults it only for a registered protocol) -/
def handleTimedResult (objs : List Obj) (req : Msg) (extract : Option Exc) (p : Prog) : HandleResult :=
  ((handleTimed objs req extract p).2.1).getD (.returned [])

end Nx.RmcServer
