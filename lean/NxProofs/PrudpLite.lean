import NxProofs.PrudpOptions
/-! lite codec. One iteration of the buffer loop on a buffer that begins with a header (`liteLoop_sized`) serves both a whole
encoding (`liteLoop_one`) and a pending prefix (`liteRun_pending`). Chunking independence: every prefix of a valid stream is
whole packets followed by a pending remainder (`lite_prefix_decomp`), so feeding it chunk by chunk is one read of the
concatenation (`liteFeedAll_eq_run`). -/
namespace Nx.Prudp

theorem LiteWF.payload_lt {p : Packet} (h : LiteWF p) : p.payload.length < 65536 := h.2.2.2.2.2.2.2.2.2.2.2.2.2.1
/-- the last three conjuncts: the fields that travel as options, by packet type and direction -/
theorem LiteWF.opts {p : Packet} (h : LiteWF p) :
    (if isSynOrConnect p.type then p.minorVersion < 256 ∧ p.supportedFunctions < 16777216
     else p.minorVersion = 0 ∧ p.supportedFunctions = 0) ∧
    (if p.type = 0 ∧ hasAck p.flags = true then optLen p.connectionSignature 16 else p.connectionSignature = some []) ∧
    (if p.type = 1 ∧ hasAck p.flags = false then optLen p.signature 16 else p.signature = none) :=
  h.2.2.2.2.2.2.2.2.2.2.2.2.2.2

/-- the dict `encode_options` builds, by the shapes `verify_options` tells apart: SYN/ACK, CONNECT request, any other
    SYN or CONNECT, the rest -/
theorem liteOptions_cases (p : Packet) :
    (p.type = 0 ∧ hasAck p.flags = true ∧ liteOptions p =
      [(0, .int (pyOr p.minorVersion p.supportedFunctions 8)), (1, optBytesVal p.connectionSignature)]) ∨
    (p.type = 1 ∧ hasAck p.flags = false ∧ liteOptions p =
      [(0, .int (pyOr p.minorVersion p.supportedFunctions 8)), (128, optBytesVal p.signature)]) ∨
    (isSynOrConnect p.type = true ∧ ¬(p.type = 0 ∧ hasAck p.flags = true) ∧ ¬(p.type = 1 ∧ hasAck p.flags = false) ∧
      liteOptions p = [(0, .int (pyOr p.minorVersion p.supportedFunctions 8))]) ∨
    (p.type ≠ 0 ∧ p.type ≠ 1 ∧ liteOptions p = []) := by
  unfold liteOptions
  by_cases ha : p.type = 0 ∧ hasAck p.flags = true
  · rw [ha.1, ha.2]; exact Or.inl ⟨rfl, rfl, rfl⟩
  by_cases hb : p.type = 1 ∧ hasAck p.flags = false
  · rw [hb.1, hb.2]; exact Or.inr (Or.inl ⟨rfl, rfl, rfl⟩)
  rw [if_neg ha, if_neg hb]
  by_cases hs : isSynOrConnect p.type = true
  · rw [if_pos hs]; exact Or.inr (Or.inr (Or.inl ⟨hs, ha, hb, rfl⟩))
  · rw [if_neg hs]
    have : p.type ≠ 0 ∧ p.type ≠ 1 := by
      simp only [isSynOrConnect, Bool.or_eq_true, beq_iff_eq, not_or] at hs; exact hs
    exact Or.inr (Or.inr (Or.inr ⟨this.1, this.2, rfl⟩))

theorem liteVerify_enc (p : Packet) : liteVerifyOptions p.type p.flags (liteOptions p) = true := by
  rcases liteOptions_cases p with ⟨ht, ha, ho⟩ | ⟨ht, ha, ho⟩ | ⟨hs, ha, hb, ho⟩ | ⟨h0, h1, ho⟩ <;> rw [ho]
  · rw [ht, liteVerifyOptions, ha]; rfl
  · rw [ht, liteVerifyOptions, ha]; rfl
  · rw [liteVerifyOptions, if_pos hs, if_neg ha, if_neg hb]; rfl
  · rw [liteVerifyOptions, if_neg (not_isSynOrConnect h0 h1)]; rfl

theorem liteOptions_spec (p : Packet) (h : LiteWF p) :
    OptsWF (liteOptions p) ∧ liteOptFields p.type p.flags (liteOptions p) = .ok {
      minorVersion := p.minorVersion, supportedFunctions := p.supportedFunctions,
      connectionSignature := p.connectionSignature, signature := p.signature } := by
  obtain ⟨hsc, hcs, hsg⟩ := h.opts
  rcases liteOptions_cases p with ⟨ht, ha, ho⟩ | ⟨ht, ha, ho⟩ | ⟨hs, ha, hb, ho⟩ | ⟨h0, h1, ho⟩ <;> rw [ho]
  · rw [ht] at hsc
    rw [if_pos ⟨ht, ha⟩] at hcs
    rw [if_neg (by omega)] at hsg
    obtain ⟨x, hx, -⟩ := optLen_some hcs
    obtain ⟨e1, e2⟩ := pyOr8_mod_div p.supportedFunctions hsc.1
    refine ⟨⟨(by decide : [0, 1].Nodup), ?_⟩, ?_⟩
    · simp only [List.forall_mem_cons, List.not_mem_nil, false_imp_iff, implies_true, and_true]
      exact ⟨support_lt hsc.1 hsc.2, optBytesVal_wf hcs (Or.inl rfl)⟩
    · rw [ht, hx, hsg, liteOptFields, ha]
      show Except.ok _ = _
      rw [e1, e2]
  · rw [ht] at hsc
    rw [if_pos ⟨ht, ha⟩] at hsg
    rw [if_neg (by omega)] at hcs
    obtain ⟨x, hx, -⟩ := optLen_some hsg
    obtain ⟨e1, e2⟩ := pyOr8_mod_div p.supportedFunctions hsc.1
    refine ⟨⟨(by decide : [0, 128].Nodup), ?_⟩, ?_⟩
    · simp only [List.forall_mem_cons, List.not_mem_nil, false_imp_iff, implies_true, and_true]
      exact ⟨support_lt hsc.1 hsc.2, optBytesVal_wf hsg (Or.inr rfl)⟩
    · rw [ht, hx, hcs, liteOptFields, ha]
      show Except.ok _ = _
      rw [e1, e2]
  · rw [if_pos hs] at hsc
    rw [if_neg ha] at hcs
    rw [if_neg hb] at hsg
    obtain ⟨e1, e2⟩ := pyOr8_mod_div p.supportedFunctions hsc.1
    refine ⟨⟨(by decide : [0].Nodup), ?_⟩, ?_⟩
    · simp only [List.forall_mem_cons, List.not_mem_nil, false_imp_iff, implies_true, and_true]
      exact support_lt hsc.1 hsc.2
    · rw [hcs, hsg]
      simp only [liteOptFields, hs, ha, hb, if_true, if_false]
      show Except.ok _ = _
      rw [e1, e2]
  · rw [if_neg (not_isSynOrConnect h0 h1)] at hsc
    rw [if_neg (by omega)] at hcs hsg
    refine ⟨OptsWF_nil, ?_⟩
    rw [hsc.1, hsc.2, hcs, hsg]
    simp only [liteOptFields, not_isSynOrConnect h0 h1, h0, h1, false_and, if_false]
    rfl

theorem liteEncodeOptions_length (p : Packet) : (liteEncodeOptions p).length < 256 := by
  have := encodeOptions_length_le (liteOptions p)
  have : (liteOptions p).length ≤ 2 := by
    rcases liteOptions_cases p with ⟨-, -, ho⟩ | ⟨-, -, ho⟩ | ⟨-, -, -, ho⟩ | ⟨-, -, ho⟩ <;> rw [ho] <;> simp
  unfold liteEncodeOptions; omega

/-- result pair with a packet list prepended (errors pass through) -/
def prependRes (ps : List Packet) (r : Except Err (List Packet) × Bytes) : Except Err (List Packet) × Bytes :=
  match r with
  | (.error e, b) => (.error e, b)
  | (.ok qs, b) => (.ok (ps ++ qs), b)

theorem prependRes_nil (r : Except Err (List Packet) × Bytes) : prependRes [] r = r := by
  obtain ⟨x, b⟩ := r; cases x <;> rfl

theorem prependRes_append (a b : List Packet) (r : Except Err (List Packet) × Bytes) :
    prependRes (a ++ b) r = prependRes a (prependRes b r) := by
  obtain ⟨x, y⟩ := r; cases x <;> simp [prependRes]

/-- the eight header bytes after magic / option size / payload size -/
def liteHdr8 (p : Packet) : Bytes :=
  u8 ((p.sourceType <<< 4) ||| p.destType) ++ u8 p.sourcePort ++ u8 p.destPort ++ u8 p.fragmentId ++
  u16le (pyOr p.type p.flags 4) ++ u16le p.packetId

theorem liteHdr8_length (p : Packet) : (liteHdr8 p).length = 8 := by simp [liteHdr8]

theorem liteEncode_eq (p : Packet) :
    liteEncode p = u8 0x80 ++ (u8 (liteEncodeOptions p).length ++ (u16le p.payload.length ++
      (liteHdr8 p ++ (liteEncodeOptions p ++ p.payload)))) := by
  simp [liteEncode, liteEncodeHeader, liteHdr8]

theorem liteEncode_length (p : Packet) :
    (liteEncode p).length = 12 + (liteEncodeOptions p).length + p.payload.length := by
  rw [liteEncode_eq]; simp [liteHdr8_length]; omega

theorem liteRdHeader_enc (p : Packet) (rest : Bytes) (h : LiteWF p) :
    liteRdHeader (liteHdr8 p ++ rest) =
      .ok ({ streamTypes := p.destType + p.sourceType * 16, sourcePort := p.sourcePort, destPort := p.destPort,
             fragmentId := p.fragmentId, typeFlags := p.type + p.flags * 16, packetId := p.packetId }, rest) := by
  obtain ⟨-, hst, hdt, hsp, hdp, hfr, hty, hfl, hpid, -⟩ := h
  have h1 : p.destType + p.sourceType * 16 < 256 := by omega
  have h3 : p.type + p.flags * 16 < 65536 := by omega
  simp only [liteRdHeader, liteHdr8, shl4_or _ hdt, pyOr4 _ hty, List.append_assoc, rdU8_u8 _ _ h1, rdU8_u8 _ _ hsp,
    rdU8_u8 _ _ hdp, rdU8_u8 _ _ hfr, rdU16_u16le _ _ h3, rdU16_u16le _ _ hpid]

theorem liteParse_enc (p : Packet) (rest : Bytes) (h : LiteWF p) :
    liteParse (liteEncodeOptions p).length p.payload.length (liteHdr8 p ++ (liteEncodeOptions p ++ (p.payload ++ rest)))
      = .ok p := by
  obtain ⟨hwf, hof⟩ := liteOptions_spec p h
  have hdo : decodeOptions (liteEncodeOptions p) = .ok (liteOptions p) := options_roundtrip _ hwf
  have hh := liteRdHeader_enc p (liteEncodeOptions p ++ (p.payload ++ rest)) h
  obtain ⟨hver, hst, hdt, hsp, hdp, hfr, hty, hfl, hpid, hse, hsub, hms, hiu, hpl, -, -, -⟩ := h
  unfold liteParse
  simp only [hh, rd_append, hdo, add_mul_div_mod _ hty, add_mul_div_mod _ hdt, liteVerify_enc, hof, Bool.not_true,
    Bool.false_eq_true, if_false, Except.ok.injEq]
  obtain ⟨ty, fl, ver, st, sp, dt, dp, se, pid, fr, sub, cs, iu, ms, sf, mv, sig, pl⟩ := p
  simp at hsub hms hiu hver hse
  simp [hsub, hms, hiu, hver, hse]

theorem liteLoop_sized (fuel os ps : Nat) (hos : os < 256) (hps : ps < 65536) (buf r : Bytes)
    (hb : buf = u8 0x80 ++ (u8 os ++ (u16le ps ++ r))) (h8 : 8 ≤ r.length) :
    liteLoop (fuel + 1) buf =
      if buf.length < 12 + os + ps then (.ok [], buf)
      else match liteParse os ps r with
        | .error e => (.error e, buf.drop (12 + os + ps))
        | .ok p => prependRes [p] (liteLoop fuel (buf.drop (12 + os + ps))) := by
  have hl : buf.length = 4 + r.length := by rw [hb]; simp; omega
  rw [liteLoop, if_neg (by rw [hb]; simp [u8]), if_neg (by omega)]
  rw [hb]
  simp only [rdU8_u8 0x80 _ (by omega), rdU8_u8 _ _ hos, rdU16_u16le _ _ hps, ne_eq, not_true_eq_false, if_false]
  split
  · rfl
  · cases liteParse os ps r with
    | error e => rfl
    | ok p =>
      cases liteLoop fuel (buf.drop (12 + os + ps)) with
      | mk x b => cases x <;> rfl

theorem liteLoop_one (p : Packet) (x : Bytes) (fuel : Nat) (h : LiteWF p) :
    liteLoop (fuel + 1) (liteEncode p ++ x) = prependRes [p] (liteLoop fuel x) := by
  have hlen := liteEncode_length p
  rw [liteLoop_sized fuel _ _ (liteEncodeOptions_length p) h.payload_lt _
    (liteHdr8 p ++ (liteEncodeOptions p ++ (p.payload ++ x)))
    (by rw [liteEncode_eq]; simp only [List.append_assoc]) (by simp [liteHdr8_length]),
    if_neg (by simp; omega), liteParse_enc p x h, ← hlen, List.drop_left]

theorem liteLoop_fuel : ∀ (f1 f2 : Nat) (buf : Bytes), buf.length < f1 → buf.length < f2 →
    liteLoop f1 buf = liteLoop f2 buf := by
  intro f1
  induction f1 with
  | zero => intro f2 buf h; omega
  | succ f ih =>
    intro f2 buf h1 h2
    cases f2 with
    | zero => omega
    | succ g =>
      cases buf with
      | nil => rfl
      | cons x buf =>
        -- the loop only calls itself on `buf.drop (12 + ..)`, which is shorter than a non-empty `buf` whatever the sizes
        have key : ∀ a b, liteLoop f ((x :: buf).drop (12 + a + b)) = liteLoop g ((x :: buf).drop (12 + a + b)) :=
          fun a b => ih g _ (by simp at h1 ⊢; omega) (by simp at h2 ⊢; omega)
        simp only [liteLoop, key]

/-- one `decode` call on a fresh object (fuel normalised) -/
def liteRun (x : Bytes) : Except Err (List Packet) × Bytes := liteLoop (x.length + 1) x

theorem liteFeed_eq_run (buf c : Bytes) : liteFeed buf c = liteRun (buf ++ c) := rfl

theorem liteLoop_eq_run (fuel : Nat) (x : Bytes) (h : x.length < fuel) : liteLoop fuel x = liteRun x :=
  liteLoop_fuel _ _ _ h (by omega)

/-- empty, or a proper prefix of the encoding of a well-formed packet: what the buffer holds between reads -/
def LitePending (t : Bytes) : Prop := t = [] ∨ ∃ p u, LiteWF p ∧ u ≠ [] ∧ t ++ u = liteEncode p

theorem LitePending.prefix {a b : Bytes} (h : LitePending (a ++ b)) : LitePending a := by
  rcases h with h | ⟨p, u, hp, hu, he⟩
  · left; simpa using (List.append_eq_nil_iff.mp h).1
  · right; exact ⟨p, b ++ u, hp, by simp [hu], by simpa using he⟩

theorem liteRun_pending {t : Bytes} (h : LitePending t) : liteRun t = (.ok [], t) := by
  unfold liteRun
  rcases h with rfl | ⟨p, u, hp, hu, he⟩
  · rfl
  have hlen := liteEncode_length p
  have hul : 0 < u.length := List.length_pos_iff.mpr hu
  have htl : t.length < 12 + (liteEncodeOptions p).length + p.payload.length := by
    have := congrArg List.length he; simp at this; omega
  by_cases h12 : t.length < 12
  · rw [liteLoop]; split <;> rfl
  -- with 12 bytes in, the buffer begins with the four bytes magic / option size / payload size of the encoding
  rw [liteEncode_eq, ← List.append_assoc, ← List.append_assoc] at he
  rcases List.append_eq_append_iff.mp he with ⟨a', h1, -⟩ | ⟨r, h1, -⟩
  · have := congrArg List.length h1; simp at this; omega
  · rw [liteLoop_sized _ _ _ (liteEncodeOptions_length p) hp.payload_lt t r
      (by rw [h1]; simp only [List.append_assoc]) (by have := congrArg List.length h1; simp at this; omega), if_pos htl]

theorem liteEncode_ne_nil (p : Packet) : liteEncode p ≠ [] := by
  rw [liteEncode_eq]; simp [u8]

theorem liteRun_stream (ps : List Packet) (hwf : ∀ p ∈ ps, LiteWF p) (x : Bytes) :
    liteRun (ps.flatMap liteEncode ++ x) = prependRes ps (liteRun x) := by
  induction ps with
  | nil => simp [prependRes_nil]
  | cons p ps ih =>
    have hp := hwf p (by simp)
    have hlen := liteEncode_length p
    simp only [List.flatMap_cons, List.append_assoc]
    unfold liteRun
    rw [liteLoop_one p _ _ hp, liteLoop_eq_run _ _ (by simp; omega), ih (fun q hq => hwf q (by simp [hq])),
      ← prependRes_append]
    rfl

theorem liteRun_valid (ps : List Packet) (hwf : ∀ p ∈ ps, LiteWF p) {t : Bytes} (ht : LitePending t) :
    liteRun (ps.flatMap liteEncode ++ t) = (.ok ps, t) := by
  rw [liteRun_stream ps hwf, liteRun_pending ht]; simp [prependRes]

theorem lite_prefix_decomp (ps : List Packet) (tail : Bytes) (ht : LitePending tail) (hwf : ∀ p ∈ ps, LiteWF p) :
    ∀ a b, a ++ b = ps.flatMap liteEncode ++ tail →
      ∃ ps1 ps2 buf, ps = ps1 ++ ps2 ∧ a = ps1.flatMap liteEncode ++ buf ∧ LitePending buf ∧
        buf ++ b = ps2.flatMap liteEncode ++ tail := by
  induction ps with
  | nil =>
    intro a b h
    simp only [List.flatMap_nil, List.nil_append] at h
    exact ⟨[], [], a, rfl, by simp, LitePending.prefix (h ▸ ht), by simpa using h⟩
  | cons p ps ih =>
    intro a b h
    simp only [List.flatMap_cons, List.append_assoc] at h
    rcases List.append_eq_append_iff.mp h with ⟨a', h1, h2⟩ | ⟨c', h1, h2⟩
    · by_cases ha : a' = []
      · subst ha
        simp only [List.append_nil] at h1
        obtain ⟨ps1, ps2, buf, e1, e2, e3, e4⟩ := ih (fun q hq => hwf q (by simp [hq])) [] b (by simpa using h2)
        refine ⟨p :: ps1, ps2, buf, by simp [e1], ?_, e3, e4⟩
        simp only [List.flatMap_cons, List.append_assoc]
        rw [← e2, ← h1]; simp
      · refine ⟨[], p :: ps, a, rfl, by simp, Or.inr ⟨p, a', hwf p (by simp), ha, h1.symm⟩, ?_⟩
        simp only [List.flatMap_cons, List.append_assoc]
        rw [h2, ← List.append_assoc, ← h1]
    · obtain ⟨ps1, ps2, buf, e1, e2, e3, e4⟩ := ih (fun q hq => hwf q (by simp [hq])) c' b h2.symm
      refine ⟨p :: ps1, ps2, buf, by simp [e1], ?_, e3, e4⟩
      simp only [List.flatMap_cons, List.append_assoc]
      rw [h1, e2]

/-- a prefix of some valid stream -/
def LiteValidPrefix (x : Bytes) : Prop :=
  ∃ (ps : List Packet) (tail b : Bytes), (∀ p ∈ ps, LiteWF p) ∧ LitePending tail ∧ x ++ b = ps.flatMap liteEncode ++ tail

theorem liteFeedAll_eq_run : ∀ (chunks : List Bytes) (buf : Bytes), LitePending buf →
    LiteValidPrefix (buf ++ chunks.flatten) → liteFeedAll buf chunks = liteRun (buf ++ chunks.flatten) := by
  intro chunks
  induction chunks with
  | nil =>
    intro buf hb _
    simp [liteFeedAll, liteRun_pending hb]
  | cons c cs ih =>
    intro buf hb hvp
    obtain ⟨ps, tail, b, hwf, htail, hv⟩ := hvp
    simp only [List.flatten_cons] at hv ⊢
    have hv' : (buf ++ c) ++ (cs.flatten ++ b) = ps.flatMap liteEncode ++ tail := by simpa using hv
    obtain ⟨ps1, ps2, buf1, e1, e2, e3, e4⟩ := lite_prefix_decomp ps tail htail hwf _ _ hv'
    have hwf1 : ∀ p ∈ ps1, LiteWF p := fun q hq => hwf q (by simp [e1, hq])
    have hwf2 : ∀ p ∈ ps2, LiteWF p := fun q hq => hwf q (by simp [e1, hq])
    have hrun1 : liteFeed buf c = (.ok ps1, buf1) := by rw [liteFeed_eq_run, e2, liteRun_valid ps1 hwf1 e3]
    have hih := ih buf1 e3 ⟨ps2, tail, b, hwf2, htail, by simpa using e4⟩
    have hrhs : liteRun (buf ++ (c ++ cs.flatten)) = prependRes ps1 (liteRun (buf1 ++ cs.flatten)) := by
      rw [← List.append_assoc, e2, List.append_assoc, liteRun_stream ps1 hwf1]
    rw [hrhs, liteFeedAll, hrun1]
    simp only []
    rw [hih]
    cases liteRun (buf1 ++ cs.flatten) with
    | mk r b' => cases r <;> rfl

/-- **chunking independence**: however a valid lite stream (whole packets followed by an incomplete one) is cut into
    reads — empty reads included — the same packets come out and the same residue stays in the buffer -/
theorem lite_chunking (ps : List Packet) (hwf : ∀ p ∈ ps, LiteWF p) (tail : Bytes) (ht : LitePending tail)
    (chunks : List Bytes) (hc : chunks.flatten = ps.flatMap liteEncode ++ tail) :
    liteFeedAll [] chunks = (.ok ps, tail) := by
  rw [liteFeedAll_eq_run chunks [] (Or.inl rfl) ⟨ps, tail, [], hwf, ht, by simp [hc]⟩, List.nil_append, hc,
    liteRun_valid ps hwf ht]

theorem liteFeed_concat (ps : List Packet) (hwf : ∀ p ∈ ps, LiteWF p) :
    liteFeed [] (ps.flatMap liteEncode) = (.ok ps, []) := by
  have := liteRun_valid ps hwf (Or.inl rfl)
  rwa [List.append_nil] at this

end Nx.Prudp
