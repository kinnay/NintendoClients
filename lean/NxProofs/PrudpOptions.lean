import NxProofs.PrudpBasic
/-! option TLVs (prudp.py `encode_options` / `decode_options`): a well-formed entry is a known key with a value its format
carries (`OptEntryWF_iff`); round trip (`options_roundtrip`), and whatever is accepted is the encoding of the dict it yields
(`decodeOptions_sound`) -/
namespace Nx.Prudp

/-- a well-formed dict entry: known key, value of the right kind and range -/
def OptEntryWF : Nat → OptVal → Prop
  | 0, .int n => n < 4294967296
  | 1, .bytes b => b.length = 16
  | 2, .int n => n < 256
  | 3, .int n => n < 65536
  | 4, .int n => n < 256
  | 128, .bytes b => b.length = 16
  | _, _ => False

def OptsWF (o : Opts) : Prop := o.keys.Nodup ∧ ∀ kv ∈ o, OptEntryWF kv.1 kv.2

theorem OptsWF_nil : OptsWF [] := ⟨List.nodup_nil, fun _ h => nomatch h⟩

theorem optBytesVal_wf {b : Option Bytes} (h : optLen b 16) {k : Nat} (hk : k = 1 ∨ k = 128) :
    OptEntryWF k (optBytesVal b) := by
  obtain ⟨x, rfl, hx⟩ := optLen_some h
  rcases hk with rfl | rfl <;> exact hx

theorem support_lt {m s : Nat} (hm : m < 256) (hs : s < 16777216) : pyOr m s 8 < 4294967296 := by
  rw [pyOr8 s hm]; omega

theorem pad16_length (b : Bytes) : (pad16 b).length = 16 := by
  simp [pad16]

theorem pad16_of_length {b : Bytes} (h : b.length = 16) : pad16 b = b := by
  unfold pad16; rw [List.take_append_of_le_length (by omega)]; exact List.take_of_length_le (by omega)

/-- `f.Carries v x`: `struct.pack` of format `f` takes the value `v` and writes the bytes `x` -/
inductive OptFmt.Carries : OptFmt → OptVal → Bytes → Prop
  | I (n : Nat) (h : n < 4294967296) : Carries .I (.int n) (u32le n)
  | B (n : Nat) (h : n < 256) : Carries .B (.int n) (u8 n)
  | H (n : Nat) (h : n < 65536) : Carries .H (.int n) (u16le n)
  | S16 (b : Bytes) (h : b.length = 16) : Carries .S16 (.bytes b) b

/-- `OptEntryWF` is the `OPTIONS` table written out by key: a known key and a value its format carries. What follows
    speaks of the four formats, not of the six keys. -/
theorem OptEntryWF_iff {k : Nat} {v : OptVal} :
    OptEntryWF k v ↔ ∃ s f x, optInfo k = some (s, f) ∧ f.Carries v x := by
  constructor
  · intro h
    unfold OptEntryWF at h
    split at h
    · exact ⟨_, _, _, rfl, .I _ h⟩
    · exact ⟨_, _, _, rfl, .S16 _ h⟩
    · exact ⟨_, _, _, rfl, .B _ h⟩
    · exact ⟨_, _, _, rfl, .H _ h⟩
    · exact ⟨_, _, _, rfl, .B _ h⟩
    · exact ⟨_, _, _, rfl, .S16 _ h⟩
    · exact h.elim
  · rintro ⟨s, f, x, hk, hv⟩
    unfold optInfo at hk
    split at hk <;> cases hk <;> cases hv <;> assumption

theorem optInfo_some {k s : Nat} {f : OptFmt} (h : optInfo k = some (s, f)) :
    k < 256 ∧ s < 256 ∧ ∀ {v x}, f.Carries v x → x.length = s := by
  unfold optInfo at h
  -- an integer writer's length is its width by `rfl`; the 16 bytes of a signature are the hypothesis of `S16`
  split at h <;> cases h <;> refine ⟨by omega, by omega, fun hv => ?_⟩ <;> cases hv <;> first | rfl | assumption

theorem encodeOption_eq {k s : Nat} {f : OptFmt} {v : OptVal} {x : Bytes} (hk : optInfo k = some (s, f))
    (hv : f.Carries v x) : encodeOption k v = u8 k ++ (u8 s ++ x) := by
  unfold encodeOption
  rw [hk]
  cases hv with
  | S16 _ h => simp only [pad16_of_length h, List.append_assoc]
  | _ => simp only [List.append_assoc]

theorem rdOptVal_enc {f : OptFmt} {v : OptVal} {x : Bytes} (hv : f.Carries v x) (r : Bytes) :
    rdOptVal f (x ++ r) = .ok (v, r) := by
  cases hv with
  | I n h => rw [rdOptVal, rdU32_u32le n r h]; rfl
  | B n h => rw [rdOptVal, rdU8_u8 n r h]; rfl
  | H n h => rw [rdOptVal, rdU16_u16le n r h]; rfl
  | S16 _ h => rw [rdOptVal, rd_append' _ r h]; rfl

theorem rdOptVal_inv {f : OptFmt} {v : OptVal} {r r' : Bytes} (h : rdOptVal f r = .ok (v, r')) :
    ∃ x, r = x ++ r' ∧ f.Carries v x := by
  cases f <;> simp only [rdOptVal, Except.map] at h
  · rcases hx : rdU32 r with e | ⟨n, r1⟩ <;> rw [hx] at h <;> cases h
    exact ⟨_, (rdU32_inv hx).1, .I n (rdU32_inv hx).2⟩
  · rcases hx : rdU8 r with e | ⟨n, r1⟩ <;> rw [hx] at h <;> cases h
    exact ⟨_, (rdU8_inv hx).1, .B n (rdU8_inv hx).2⟩
  · rcases hx : rdU16 r with e | ⟨n, r1⟩ <;> rw [hx] at h <;> cases h
    exact ⟨_, (rdU16_inv hx).1, .H n (rdU16_inv hx).2⟩
  · rcases hx : rd 16 r with e | ⟨b, r1⟩ <;> rw [hx] at h <;> cases h
    exact ⟨_, (rd_inv hx).1, .S16 b (rd_inv hx).2⟩

theorem decodeOptionsLoop_entry (fuel : Nat) (seen : List Nat) (k : Nat) (v : OptVal) (rest : Bytes)
    (h : OptEntryWF k v) :
    decodeOptionsLoop (fuel + 1) seen (encodeOption k v ++ rest) =
      if seen.contains k then .error .value
      else (decodeOptionsLoop fuel (k :: seen) rest).map ((k, v) :: ·) := by
  obtain ⟨s, f, x, hk, hv⟩ := OptEntryWF_iff.mp h
  obtain ⟨hk8, hs8, -⟩ := optInfo_some hk
  rw [encodeOption_eq hk hv, decodeOptionsLoop, if_neg (by simp [u8])]
  simp only [List.append_assoc, rdU8_u8 _ _ hk8, rdU8_u8 _ _ hs8, hk, rdOptVal_enc hv, ne_eq, not_true_eq_false,
    if_false]
  split
  · rfl
  · cases decodeOptionsLoop fuel (k :: seen) rest <;> rfl

/-- key, size and at least one value byte -/
theorem encodeOption_length_gt {k : Nat} {v : OptVal} (h : OptEntryWF k v) : 2 < (encodeOption k v).length := by
  obtain ⟨s, f, x, hk, hv⟩ := OptEntryWF_iff.mp h
  rw [encodeOption_eq hk hv]
  cases hv <;> simp [*]

/-- key, size and at most 16 bytes of value -/
theorem encodeOption_length_le (k : Nat) (v : OptVal) : (encodeOption k v).length ≤ 18 := by
  unfold encodeOption
  split
  · exact Nat.zero_le _
  · split <;> simp [pad16]

theorem encodeOptions_length_le (o : Opts) : (encodeOptions o).length ≤ 18 * o.length := by
  induction o with
  | nil => exact Nat.le_refl _
  | cons kv o ih =>
    have := encodeOption_length_le kv.1 kv.2
    rw [encodeOptions, List.length_append, List.length_cons]; omega

theorem decodeOptionsLoop_append (o : Opts) (t : Bytes) : ∀ (fuel : Nat) (seen : List Nat),
    (∀ kv ∈ o, OptEntryWF kv.1 kv.2) → o.keys.Nodup → (∀ k ∈ o.keys, k ∉ seen) →
    decodeOptionsLoop (o.length + fuel) seen (encodeOptions o ++ t) =
      (decodeOptionsLoop fuel (o.keys.reverse ++ seen) t).map (o ++ ·) := by
  induction o with
  | nil =>
    intro fuel seen _ _ _
    simp only [encodeOptions, List.nil_append, List.length_nil, Nat.zero_add, Opts.keys, List.map_nil, List.reverse_nil]
    cases decodeOptionsLoop fuel seen t <;> rfl
  | cons kv o ih =>
    obtain ⟨k, v⟩ := kv
    intro fuel seen hwf hnd hseen
    obtain ⟨hko, hnd⟩ := List.nodup_cons.mp hnd
    rw [List.length_cons, Nat.add_right_comm, encodeOptions, List.append_assoc,
      decodeOptionsLoop_entry _ seen k v _ (hwf _ List.mem_cons_self), if_neg (by simpa using hseen k List.mem_cons_self),
      ih fuel (k :: seen) (fun kv h => hwf kv (List.mem_cons_of_mem _ h)) hnd ?_]
    · simp only [Opts.keys, List.map_cons, List.reverse_cons, List.append_assoc, List.singleton_append]
      cases decodeOptionsLoop fuel ((List.map (·.1) o).reverse ++ k :: seen) t <;> rfl
    · intro k' hk' hmem
      rcases List.mem_cons.mp hmem with rfl | hmem
      · exact hko hk'
      · exact hseen k' (List.mem_cons_of_mem _ hk') hmem

theorem encodeOptions_length_ge (o : Opts) (h : ∀ kv ∈ o, OptEntryWF kv.1 kv.2) : o.length ≤ (encodeOptions o).length := by
  induction o with
  | nil => simp
  | cons kv o ih =>
    obtain ⟨k, v⟩ := kv
    have hx : OptEntryWF k v := h (k, v) (by simp)
    have := encodeOption_length_gt hx
    have := ih (fun kv hm => h kv (by simp [hm]))
    simp [encodeOptions]; omega

theorem options_roundtrip (o : Opts) (h : OptsWF o) : decodeOptions (encodeOptions o) = .ok o := by
  obtain ⟨n, hn⟩ : ∃ n, (encodeOptions o).length + 1 = o.length + (n + 1) :=
    ⟨(encodeOptions o).length - o.length, by have := encodeOptions_length_ge o h.2; omega⟩
  rw [decodeOptions, hn, ← List.append_nil (encodeOptions o), decodeOptionsLoop_append o [] _ [] h.2 h.1 (by simp),
    decodeOptionsLoop]
  simp [Except.map]

theorem decodeOptionsLoop_ok_inv {fuel : Nat} {seen : List Nat} {d : Bytes} {o : Opts}
    (h : decodeOptionsLoop (fuel + 1) seen d = .ok o) :
    (d = [] ∧ o = []) ∨ ∃ k v rest o', OptEntryWF k v ∧ k ∉ seen ∧ d = encodeOption k v ++ rest ∧
      decodeOptionsLoop fuel (k :: seen) rest = .ok o' ∧ o = (k, v) :: o' := by
  unfold decodeOptionsLoop at h
  -- one line per read: in the error branch `h` equates `error` with `ok`, which `reduceCtorEq` refutes
  by_cases he : d.isEmpty = true
  · rw [if_pos he] at h; cases h; exact Or.inl ⟨List.isEmpty_iff.mp he, rfl⟩
  rw [if_neg he] at h
  rcases h1 : rdU8 d with e | ⟨t, r1⟩ <;> simp only [h1, reduceCtorEq] at h
  rcases h2 : rdU8 r1 with e | ⟨l, r2⟩ <;> simp only [h2, reduceCtorEq] at h
  rcases hk : optInfo t with _ | ⟨size, fmt⟩ <;> simp only [hk, reduceCtorEq] at h
  obtain ⟨hl, h⟩ := of_ite_error h
  obtain ⟨hs, h⟩ := of_ite_error h
  rcases h3 : rdOptVal fmt r2 with e | ⟨v, r3⟩ <;> simp only [h3, reduceCtorEq] at h
  rcases h4 : decodeOptionsLoop fuel (t :: seen) r3 with e | o' <;> simp only [h4] at h <;> cases h
  obtain ⟨x, rfl, hv⟩ := rdOptVal_inv h3
  rw [Decidable.not_not.mp hl] at h2
  exact Or.inr ⟨t, v, r3, o', OptEntryWF_iff.mpr ⟨_, _, _, hk, hv⟩, by simpa using hs,
    by rw [encodeOption_eq hk hv, (rdU8_inv h1).1, (rdU8_inv h2).1]; simp only [List.append_assoc], h4, rfl⟩

/-- Wire order is dict order; the keys come out pairwise distinct, so the list stands for a Python dict
    (`verify_options` compares `set(options)`). -/
theorem decodeOptionsLoop_sound (fuel : Nat) : ∀ (seen : List Nat) (d : Bytes) (o : Opts),
    decodeOptionsLoop fuel seen d = .ok o →
      encodeOptions o = d ∧ (∀ kv ∈ o, OptEntryWF kv.1 kv.2) ∧ o.keys.Nodup ∧ ∀ k ∈ o.keys, k ∉ seen := by
  induction fuel with
  | zero => intro seen d o h; cases h
  | succ f ih =>
    intro seen d o h
    rcases decodeOptionsLoop_ok_inv h with ⟨rfl, rfl⟩ | ⟨k, v, rest, o', hkv, hk, rfl, hrest, rfl⟩
    · exact ⟨rfl, by simp, by simp [Opts.keys], by simp [Opts.keys]⟩
    · obtain ⟨rfl, hwf, hnd, hseen⟩ := ih _ _ _ hrest
      refine ⟨rfl, ?_, ?_, ?_⟩
      · intro kv hm
        rcases List.mem_cons.mp hm with rfl | hm
        · exact hkv
        · exact hwf kv hm
      · exact List.nodup_cons.mpr ⟨fun hin => hseen k hin List.mem_cons_self, hnd⟩
      · intro k' hk'
        rcases List.mem_cons.mp hk' with rfl | hk'
        · exact hk
        · exact fun hs => hseen k' hk' (List.mem_cons_of_mem _ hs)

theorem decodeOptions_sound (d : Bytes) (o : Opts) (h : decodeOptions d = .ok o) : encodeOptions o = d ∧ OptsWF o := by
  obtain ⟨e, w, n, -⟩ := decodeOptionsLoop_sound _ [] d o h
  exact ⟨e, n, w⟩

end Nx.Prudp
