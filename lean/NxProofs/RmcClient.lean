import NxModel.Nex.RmcClientAbort  -- for `counters`, which that model file defines; nothing here is about aborts
import NxProofs.Assoc
/-! The RMC client call-matching model refines the per-call specification. `Rel` ties the shared dicts to the specification's
slots (`frames = calls.map proj`, and `Open` while the connection is open); `step_refines` / `run_refines` keep it under H-ids.
Id allocation is a machine on three counters (`cstep`). `sent_ids_distinct`: all request messages of a run, one-way requests
included, carry pairwise distinct call ids while the counter does not wrap. `run_no_cross_talk` reads a call's outcome off
the specification's history. -/
namespace Nx.RmcClient
open Nx.Rmc

section dict
variable {α : Type}

theorem dlookup_eq : @dlookup α = alookup := eq_alookup rfl rfl

theorem derase_eq : @derase α = aerase := eq_aerase rfl rfl

@[simp] theorem dlookup_derase_self (k : Nat) (d : List (Nat × α)) : dlookup k (derase k d) = none := by
  rw [dlookup_eq, derase_eq, alookup_aerase_self]

theorem dlookup_derase_ne {k k' : Nat} (h : k' ≠ k) (d : List (Nat × α)) : dlookup k' (derase k d) = dlookup k' d := by
  rw [dlookup_eq, derase_eq, alookup_aerase_ne h]

@[simp] theorem dlookup_dset_self (k : Nat) (v : α) (d : List (Nat × α)) : dlookup k (dset k v d) = some v := by
  simp [dset, dlookup]

theorem dlookup_dset_ne {k k' : Nat} (h : k' ≠ k) (v : α) (d : List (Nat × α)) :
    dlookup k' (dset k v d) = dlookup k' d := by
  have : k ≠ k' := fun e => h e.symm
  simp [dset, dlookup, this, dlookup_derase_ne h]

theorem mem_derase {k : Nat} {d : List (Nat × α)} {p : Nat × α} (h : p ∈ derase k d) : p ∈ d :=
  (mem_aerase.mp (derase_eq ▸ h)).1

end dict

theorem run_append (s : State) (a b : List Op) :
    run s (a ++ b) = ((run (run s a).1 b).1, (run s a).2 ++ (run (run s a).1 b).2) := by
  induction a generalizing s with
  | nil => simp [run]
  | cons op r ih => simp [run, ih, List.append_assoc]

theorem run_drop_requests (s : State) (ops : List Op) :
    run s ops = run s (ops.filter fun op => op != .recvRequest) := by
  induction ops generalizing s with
  | nil => rfl
  | cons op rest ih =>
    by_cases h : op = .recvRequest
    · rw [List.filter_cons_of_neg (by simp [h]), ← ih, h]; simp [run, step]
    · rw [List.filter_cons_of_pos (by simp [h])]; simp only [run, ih (step s op).1]

def isCall : Op → Bool
  | .call _ => true
  | _ => false

def nCalls (ops : List Op) : Nat := (ops.filter isCall).length

theorem nCalls_cons (op : Op) (rest : List Op) : nCalls (op :: rest) = nCalls rest + (if isCall op then 1 else 0) := by
  cases op <;> simp [nCalls, isCall, List.filter]

/-- the (task, id) pairs of the `sent` notes of a core output list -/
def sentCore : List Out → List (Nat × Nat)
  | [] => []
  | .sent t id :: r => (t, id) :: sentCore r
  | _ :: r => sentCore r

theorem mem_sentCore {t id : Nat} {l : List Out} : (t, id) ∈ sentCore l ↔ Out.sent t id ∈ l := by
  induction l with
  | nil => simp [sentCore]
  | cons o r ih => cases o <;> simp [sentCore, ih]

theorem sentCore_append (a b : List Out) : sentCore (a ++ b) = sentCore a ++ sentCore b := by
  induction a with
  | nil => rfl
  | cons o r ih => cases o <;> simp [sentCore, ih]

/-! ## the id counter

What `step` does to `counters` (`nextId`, `nextTask`, `closed`) and which request it sends is a function of the counters
alone — `cstep`. Everything about id allocation (ids increase, closed stays closed, H-ids for short runs, distinct request
ids, aborts do not change ids) is a fact about this three-component machine. -/

def cstep (c : Nat × Nat × Bool) : Op → (Nat × Nat × Bool) × List (Nat × Nat)
  | .call _ =>
    if c.2.2 then ((c.1, c.2.1 + 1, true), []) else (((c.1 + 1) % 4294967296, c.2.1 + 1, false), [(c.2.1, c.1)])
  | .eof | .cleanup => ((c.1, c.2.1, true), [])
  | _ => (c, [])

theorem step_wake (s : State) (t : Nat) :
    counters (step s (.wake t)).1 = counters s ∧ sentCore (step s (.wake t)).2 = [] ∧
      ∀ p ∈ (step s (.wake t)).1.frames, p ∈ s.frames := by
  simp only [step]
  cases dlookup t s.frames with
  | none => exact ⟨rfl, rfl, fun _ h => h⟩
  | some id =>
    simp only []
    by_cases hf : t ∈ s.fired
    · rw [if_pos hf]
      by_cases hc : s.closed = true
      · rw [if_pos hc]; exact ⟨rfl, rfl, fun _ h => mem_derase h⟩
      · rw [if_neg hc]
        cases dlookup id s.responses <;> exact ⟨rfl, rfl, fun _ h => mem_derase h⟩
    · rw [if_neg hf]; exact ⟨rfl, rfl, fun _ h => h⟩

theorem step_cstep (s : State) (op : Op) :
    counters (step s op).1 = (cstep (counters s) op).1 ∧ sentCore (step s op).2 = (cstep (counters s) op).2 := by
  cases op with
  | call nr => cases hc : s.closed <;> cases nr <;> simp [step, cstep, counters, sentCore, hc]
  | recvResponse m => simp only [step]; split <;> exact ⟨rfl, rfl⟩
  | recvRequest => exact ⟨rfl, rfl⟩
  | eof => cases hc : s.closed <;> simp [step, doCleanup, cstep, counters, sentCore, hc]
  | cleanup => cases hc : s.closed <;> simp [step, doCleanup, cstep, counters, sentCore, hc]
  | wake t => exact ⟨(step_wake s t).1, (step_wake s t).2.1⟩

def crun (c : Nat × Nat × Bool) : List Op → (Nat × Nat × Bool) × List (Nat × Nat)
  | [] => (c, [])
  | op :: ops => ((crun (cstep c op).1 ops).1, (cstep c op).2 ++ (crun (cstep c op).1 ops).2)

theorem crun_append (c : Nat × Nat × Bool) (a b : List Op) :
    crun c (a ++ b) = ((crun (crun c a).1 b).1, (crun c a).2 ++ (crun (crun c a).1 b).2) := by
  induction a generalizing c with
  | nil => rfl
  | cons op r ih => simp [crun, ih]

theorem run_crun (s : State) (ops : List Op) :
    counters (run s ops).1 = (crun (counters s) ops).1 ∧ sentCore (run s ops).2 = (crun (counters s) ops).2 := by
  induction ops generalizing s with
  | nil => exact ⟨rfl, rfl⟩
  | cons op rest ih =>
    obtain ⟨h1, h2⟩ := step_cstep s op
    obtain ⟨i1, i2⟩ := ih (step s op).1
    simp only [run, crun, sentCore_append, h2, ← h1, i1, i2, and_self]

theorem cstep_closed (c : Nat × Nat × Bool) (op : Op) (h : c.2.2 = true) : (cstep c op).1.2.2 = true := by
  cases op <;> simp [cstep, h]

theorem cstep_facts (c : Nat × Nat × Bool) (op : Op) (h : c.1 + (if isCall op then 1 else 0) < 4294967296) :
    c.1 ≤ (cstep c op).1.1 ∧ (cstep c op).1.1 ≤ c.1 + (if isCall op then 1 else 0) ∧ c.2.1 ≤ (cstep c op).1.2.1 ∧
    ∀ p ∈ (cstep c op).2, p = (c.2.1, c.1) ∧ (cstep c op).1.1 = c.1 + 1 := by
  cases op with
  | call nr =>
    have hmod : (c.1 + 1) % 4294967296 = c.1 + 1 := Nat.mod_eq_of_lt (by simpa [isCall] using h)
    cases hc : c.2.2 <;> simp [cstep, hc, hmod, isCall]
  | _ => simp [cstep, isCall]

theorem crun_bound (c : Nat × Nat × Bool) (ops : List Op) (h : c.1 + nCalls ops < 4294967296) :
    (∀ p ∈ (crun c ops).2, c.1 ≤ p.2 ∧ p.2 < (crun c ops).1.1) ∧
    c.1 ≤ (crun c ops).1.1 ∧ (crun c ops).1.1 ≤ c.1 + nCalls ops := by
  induction ops generalizing c with
  | nil => simp [crun, nCalls]
  | cons op rest ih =>
    rw [nCalls_cons] at h ⊢
    obtain ⟨f1, f2, _, f4⟩ := cstep_facts c op (by omega)
    obtain ⟨i1, i2, i3⟩ := ih (cstep c op).1 (by omega)
    refine ⟨fun p hp => ?_, by simp only [crun]; omega, by simp only [crun]; omega⟩
    simp only [crun]
    rcases List.mem_append.mp hp with hp | hp
    · obtain ⟨rfl, e⟩ := f4 p hp
      omega
    · have := i1 p hp
      omega

theorem crun_distinct (c : Nat × Nat × Bool) (ops : List Op) (h : c.1 + nCalls ops < 4294967296) (t t' id : Nat)
    (hi : (t, id) ∈ (crun c ops).2) (hj : (t', id) ∈ (crun c ops).2) : t = t' := by
  induction ops generalizing c with
  | nil => cases hi
  | cons op rest ih =>
    rw [nCalls_cons] at h
    obtain ⟨_, f2, _, f4⟩ := cstep_facts c op (by omega)
    have hb := (crun_bound (cstep c op).1 rest (by omega)).1
    rcases List.mem_append.mp hi with hi | hi <;> rcases List.mem_append.mp hj with hj | hj
    · exact (Prod.mk.inj (f4 _ hi).1).1.trans (Prod.mk.inj (f4 _ hj).1).1.symm
    · have e : id = c.1 := (Prod.mk.inj (f4 _ hi).1).2
      have : (cstep c op).1.1 ≤ id := (hb _ hj).1
      have := (f4 _ hi).2; omega
    · have e : id = c.1 := (Prod.mk.inj (f4 _ hj).1).2
      have : (cstep c op).1.1 ≤ id := (hb _ hi).1
      have := (f4 _ hj).2; omega
    · exact ih _ (by omega) hi hj

/-- two request messages of one run never carry the same call id, one-way requests included, as long as the
    counter does not wrap (fewer than 2^32 − `nextId` requests): a call id names one request message -/
theorem sent_ids_distinct (s : State) (ops : List Op) (h : s.nextId + nCalls ops < 4294967296)
    (t t' id : Nat) (hi : Out.sent t id ∈ (run s ops).2) (hj : Out.sent t' id ∈ (run s ops).2) : t = t' := by
  rw [← mem_sentCore, (run_crun s ops).2] at hi hj
  exact crun_distinct (counters s) ops h t t' id hi hj

theorem step_closed_stays (s : State) (op : Op) (h : s.closed = true) : (step s op).1.closed = true :=
  (congrArg (·.2.2) (step_cstep s op).1).trans (cstep_closed _ op h)

theorem mem_step_frames {s : State} {op : Op} {p : Nat × Nat} (h : p ∈ (step s op).1.frames) :
    p ∈ s.frames ∨ Out.sent p.1 p.2 ∈ (step s op).2 := by
  cases op with
  | call nr =>
    cases hc : s.closed <;> cases nr <;> simp only [step, hc, Bool.false_eq_true, if_true, if_false] at h ⊢
    · rcases List.mem_cons.mp h with rfl | h
      · exact .inr (by simp)
      · exact .inl h
    all_goals exact .inl h
  | recvResponse m => simp only [step] at h; split at h <;> exact .inl h
  | recvRequest => exact .inl h
  | eof => simp only [step, doCleanup] at h; split at h <;> exact .inl h
  | cleanup => simp only [step, doCleanup] at h; split at h <;> exact .inl h
  | wake t => exact .inl ((step_wake s t).2.2 p h)

theorem distinctLive_of_small (s : State) (ops : List Op) (h1 : ∀ p ∈ s.frames, p.2 < s.nextId)
    (h2 : s.nextId + nCalls ops < 4294967296) : distinctLive s ops = true := by
  induction ops generalizing s with
  | nil => rfl
  | cons op rest ih =>
    rw [nCalls_cons] at h2
    obtain ⟨f1, f2, _, f4⟩ := cstep_facts (counters s) op (by show s.nextId + _ < _; omega)
    obtain ⟨e, es⟩ := step_cstep s op
    have e : (step s op).1.nextId = (cstep (counters s) op).1.1 := congrArg (·.1) e
    simp only [distinctLive, Bool.and_eq_true]
    refine ⟨?_, ih _ (fun p hp => ?_) (by rw [e]; change _ ≤ s.nextId + _ at f2; omega)⟩
    · -- an id below the counter is not the counter
      have : (s.frames.map (·.2)).contains s.nextId = false := by
        simp only [List.contains_eq_mem, decide_eq_false_iff_not, List.mem_map, not_exists, not_and]
        intro p hp; have := h1 p hp; omega
      cases op with
      | call nr => cases nr <;> simp only [this, Bool.not_false, Bool.or_true]
      | _ => rfl
    · rcases mem_step_frames hp with hp | hp
      · have := h1 p hp; change s.nextId ≤ _ at f1; omega
      · obtain ⟨e1, e2⟩ := f4 _ (es ▸ mem_sentCore.mpr hp)
        have : p.2 = s.nextId := (Prod.mk.inj e1).2
        change _ = s.nextId + 1 at e2; omega

def proj (c : SCall) : Nat × Nat := (c.task, c.id)

theorem dlookup_proj (t : Nat) (l : List SCall) : dlookup t (l.map proj) = (sfind t l).map (·.id) := by
  induction l with
  | nil => rfl
  | cons c r ih => by_cases h : c.task = t <;> simp [dlookup, sfind, proj, h] <;> simpa [proj] using ih

theorem derase_proj (t : Nat) (l : List SCall) : derase t (l.map proj) = (l.filter (·.task ≠ t)).map proj := by
  induction l with
  | nil => rfl
  | cons c r ih => by_cases h : c.task = t <;> simp [derase, proj, h] <;> simpa [proj] using ih

theorem sfind_some {t : Nat} {l : List SCall} {c : SCall} (h : sfind t l = some c) : c ∈ l ∧ c.task = t := by
  induction l with
  | nil => simp [sfind] at h
  | cons a r ih =>
    by_cases h1 : a.task = t
    · simp [sfind, h1] at h; subst h; simp [h1]
    · simp [sfind, h1] at h; have := ih h; simp [this]

theorem sfind_none {t : Nat} {l : List SCall} (h : sfind t l = none) : ∀ c ∈ l, c.task ≠ t := by
  induction l with
  | nil => simp
  | cons a r ih =>
    by_cases h1 : a.task = t
    · simp [sfind, h1] at h
    · simp [sfind, h1] at h; intro c hc; rcases List.mem_cons.mp hc with rfl | hc
      · exact h1
      · exact ih h c hc

/-- the spec's reaction to a response -/
def upd (m : Msg) (c : SCall) : SCall := if c.id = m.callId ∧ c.resp = none then { c with resp := some m } else c

@[simp] theorem upd_task (m : Msg) (c : SCall) : (upd m c).task = c.task := by unfold upd; split <;> rfl
theorem upd_id (m : Msg) (c : SCall) : (upd m c).id = c.id := by unfold upd; split <;> rfl
theorem proj_upd (m : Msg) (c : SCall) : proj (upd m c) = proj c := by simp [proj, upd_id]

theorem map_proj_upd (m : Msg) (l : List SCall) : (l.map (upd m)).map proj = l.map proj := by
  simp [List.map_map, Function.comp_def, proj_upd]

structure Base (s : State) (a : CallSpec) : Prop where
  nextId : s.nextId = a.nextId
  nextTask : s.nextTask = a.nextTask
  closed : s.closed = a.closed
  frames : s.frames = a.calls.map proj

/-- holds as long as the connection is open -/
structure Open (s : State) (a : CallSpec) : Prop where
  tasksLt : ∀ c ∈ a.calls, c.task < a.nextTask
  firedLt : ∀ t ∈ s.fired, t < a.nextTask
  reqsLt : ∀ p ∈ s.requests, p.2 < a.nextTask
  tasksInj : ∀ c1 ∈ a.calls, ∀ c2 ∈ a.calls, c1.task = c2.task → c1 = c2
  idsInj : ∀ c1 ∈ a.calls, ∀ c2 ∈ a.calls, c1.id = c2.id → c1 = c2
  pending : ∀ c ∈ a.calls, c.resp = none → dlookup c.id s.requests = some c.task ∧ c.task ∉ s.fired
  answered : ∀ c ∈ a.calls, ∀ m, c.resp = some m →
    dlookup c.id s.responses = some m ∧ dlookup c.id s.requests = none ∧ c.task ∈ s.fired
  reqs : ∀ i t, dlookup i s.requests = some t → ∃ c ∈ a.calls, c.id = i ∧ c.task = t ∧ c.resp = none

structure Rel (s : State) (a : CallSpec) : Prop where
  base : Base s a
  opn : s.closed = false → Open s a
  cls : s.closed = true → ∀ c ∈ a.calls, c.task ∈ s.fired

theorem rel_init (n : Nat) : Rel { init with nextId := n } { CallSpec.init with nextId := n } := by
  refine ⟨⟨rfl, rfl, rfl, rfl⟩, fun _ => ?_, fun h => by simp [init] at h⟩
  constructor <;> simp [init, CallSpec.init, dlookup]

def obs (l : List Out) : List Out := l.filter Out.observable

/-- the fresh id of a registering call differs from the ids of all outstanding calls -/
def FreshId (s : State) : Op → Prop
  | .call false => s.closed = false → ∀ p ∈ s.frames, p.2 ≠ s.nextId
  | _ => True

theorem freshId_of_distinctLive (s : State) (op : Op) (ops : List Op) (h : distinctLive s (op :: ops) = true) :
    FreshId s op ∧ distinctLive (step s op).1 ops = true := by
  simp only [distinctLive, Bool.and_eq_true] at h
  refine ⟨?_, h.2⟩
  cases op with
  | call nr =>
    cases nr with
    | true => trivial
    | false =>
      intro hc p hp
      have h1 := h.1
      simp only [hc, Bool.false_or, Bool.not_eq_true', List.contains_eq_mem, decide_eq_false_iff_not] at h1
      intro e
      exact h1 (List.mem_map.mpr ⟨p, hp, e⟩)
  | _ => trivial

theorem Rel.of_closed {s : State} {a : CallSpec} (hb : Base s a) (hc : s.closed = true)
    (hf : ∀ c ∈ a.calls, c.task ∈ s.fired) : Rel s a :=
  ⟨hb, fun h => absurd (hc.symm.trans h) (by decide), fun _ => hf⟩

theorem step_closed {s : State} {a : CallSpec} (hb : Base s a) (hc : s.closed = true)
    (hf : ∀ c ∈ a.calls, c.task ∈ s.fired) (op : Op) :
    Rel (step s op).1 (CallSpec.step a op).1 ∧ obs (step s op).2 = (CallSpec.step a op).2 := by
  have hca : a.closed = true := hb.closed ▸ hc
  have same : ({ a with closed := true } : CallSpec) = a := by cases a; simp_all
  cases op with
  | call nr =>
    simp only [step, CallSpec.step, hc, hca, if_true, hb.nextTask]
    exact ⟨.of_closed ⟨hb.nextId, rfl, rfl, hb.frames⟩ rfl hf, rfl⟩
  | recvResponse m =>
    -- stored or dropped: the frames stay, `fired` can only grow
    have hb' : Base s (CallSpec.step a (.recvResponse m)).1 :=
      ⟨hb.nextId, hb.nextTask, hb.closed, hb.frames.trans (map_proj_upd m a.calls).symm⟩
    have hf' : ∀ c ∈ (CallSpec.step a (.recvResponse m)).1.calls, c.task ∈ s.fired := fun c hcm => by
      obtain ⟨c0, hc0, rfl⟩ := List.mem_map.mp hcm
      exact (upd_task m c0).symm ▸ hf c0 hc0
    simp only [step]
    cases dlookup m.callId s.requests with
    | none => exact ⟨.of_closed hb' hc hf', rfl⟩
    | some t => exact ⟨.of_closed ⟨hb'.nextId, hb'.nextTask, hb'.closed, hb'.frames⟩ hc
        fun c hcm => List.mem_cons_of_mem _ (hf' c hcm), rfl⟩
  | recvRequest => exact ⟨.of_closed hb hc hf, rfl⟩
  | eof => simp only [step, doCleanup, hc, if_true, CallSpec.step, same]; exact ⟨.of_closed hb hc hf, rfl⟩
  | cleanup => simp only [step, doCleanup, hc, if_true, CallSpec.step, same]; exact ⟨.of_closed hb hc hf, rfl⟩
  | wake t =>
    simp only [step, CallSpec.step]
    rw [hb.frames, dlookup_proj]
    cases hs : sfind t a.calls with
    | none => exact ⟨.of_closed hb hc hf, rfl⟩
    | some c =>
      obtain ⟨hcm, hct⟩ := sfind_some hs
      have htf : t ∈ s.fired := hct ▸ hf c hcm
      simp only [Option.map_some, htf, if_true, hc, hca]
      exact ⟨.of_closed ⟨hb.nextId, hb.nextTask, rfl, derase_proj t a.calls⟩ rfl
        fun c' hc' => hf c' (List.mem_filter.mp hc').1, rfl⟩

theorem Rel.of_open {s : State} {a : CallSpec} (hb : Base s a) (hc : s.closed = false) (ho : Open s a) : Rel s a :=
  ⟨hb, fun _ => ho, fun h => absurd (hc.symm.trans h) (by decide)⟩

theorem step_open_call_noresp {s : State} {a : CallSpec} (hb : Base s a) (hc : s.closed = false) (ho : Open s a) :
    Rel (step s (.call true)).1 (CallSpec.step a (.call true)).1 ∧
      obs (step s (.call true)).2 = (CallSpec.step a (.call true)).2 := by
  have hca : a.closed = false := hb.closed ▸ hc
  simp only [step, CallSpec.step, hc, hca, Bool.false_eq_true, if_false, if_true, hb.nextTask, hb.nextId]
  refine ⟨.of_open ⟨rfl, rfl, rfl, hb.frames⟩ rfl ?_, rfl⟩
  exact { tasksLt := fun c h => Nat.lt_succ_of_lt (ho.tasksLt c h)
          firedLt := fun t h => Nat.lt_succ_of_lt (ho.firedLt t h)
          reqsLt := fun p h => Nat.lt_succ_of_lt (ho.reqsLt p h)
          tasksInj := ho.tasksInj, idsInj := ho.idsInj, pending := ho.pending, answered := ho.answered, reqs := ho.reqs }

theorem step_open_call {s : State} {a : CallSpec} (hb : Base s a) (hc : s.closed = false) (ho : Open s a)
    (hfresh : ∀ p ∈ s.frames, p.2 ≠ s.nextId) :
    Rel (step s (.call false)).1 (CallSpec.step a (.call false)).1 ∧
      obs (step s (.call false)).2 = (CallSpec.step a (.call false)).2 := by
  have hca : a.closed = false := hb.closed ▸ hc
  have hfr : ∀ c ∈ a.calls, c.id ≠ a.nextId := fun c hcm =>
    hb.nextId ▸ hfresh (proj c) (hb.frames ▸ List.mem_map_of_mem hcm)
  simp only [step, CallSpec.step, hc, hca, Bool.false_eq_true, if_false, hb.nextTask, hb.nextId]
  refine ⟨.of_open ⟨rfl, rfl, rfl, ?_⟩ rfl ?_, rfl⟩
  · simp [hb.frames, proj]
  · constructor
    case tasksLt =>
      intro c h
      rcases List.mem_cons.mp h with rfl | h
      · exact Nat.lt_succ_self _
      · exact Nat.lt_succ_of_lt (ho.tasksLt c h)
    case firedLt => exact fun t h => Nat.lt_succ_of_lt (ho.firedLt t h)
    case reqsLt =>
      intro p h
      rcases List.mem_cons.mp h with rfl | h
      · exact Nat.lt_succ_self _
      · exact Nat.lt_succ_of_lt (ho.reqsLt p (mem_derase h))
    case tasksInj =>
      intro c1 h1 c2 h2 e
      rcases List.mem_cons.mp h1 with rfl | h1 <;> rcases List.mem_cons.mp h2 with rfl | h2
      · rfl
      · have := ho.tasksLt c2 h2; simp at e; omega
      · have := ho.tasksLt c1 h1; simp at e; omega
      · exact ho.tasksInj c1 h1 c2 h2 e
    case idsInj =>
      intro c1 h1 c2 h2 e
      rcases List.mem_cons.mp h1 with rfl | h1 <;> rcases List.mem_cons.mp h2 with rfl | h2
      · rfl
      · exact absurd e.symm (hfr c2 h2)
      · exact absurd e (hfr c1 h1)
      · exact ho.idsInj c1 h1 c2 h2 e
    case pending =>
      intro c h hr
      rcases List.mem_cons.mp h with rfl | h
      · refine ⟨by simp, fun hm => ?_⟩
        have := ho.firedLt _ hm; simp at this
      · have hne := hfr c h
        rw [dlookup_dset_ne hne]
        exact ho.pending c h hr
    case answered =>
      intro c h m hr
      rcases List.mem_cons.mp h with rfl | h
      · simp at hr
      · have hne := hfr c h
        rw [dlookup_dset_ne hne]
        exact ho.answered c h m hr
    case reqs =>
      intro i t hl
      by_cases hi : i = a.nextId
      · subst hi
        simp at hl
        exact ⟨_, List.mem_cons_self, rfl, hl, rfl⟩
      · rw [dlookup_dset_ne hi] at hl
        obtain ⟨c, hcm, h1, h2, h3⟩ := ho.reqs i t hl
        exact ⟨c, List.mem_cons_of_mem _ hcm, h1, h2, h3⟩

theorem step_unknown_response (s : State) (m : Msg) (h : dlookup m.callId s.requests = none) :
    step s (.recvResponse m) = (s, [.warnInvalidCallId m.callId]) := by
  simp [step, h]

theorem spec_response_inert {a : CallSpec} {m : Msg} (hno : ∀ c ∈ a.calls, c.id = m.callId → c.resp ≠ none) :
    (CallSpec.step a (.recvResponse m)).1 = a := by
  have h : a.calls.map (upd m) = a.calls :=
    (List.map_congr_left fun c hcm => if_neg fun h => hno c hcm h.1 h.2).trans (List.map_id _)
  show ({ a with calls := a.calls.map (upd m) } : CallSpec) = a
  rw [h]

theorem step_open_response {s : State} {a : CallSpec} (hb : Base s a) (hc : s.closed = false) (ho : Open s a)
    (m : Msg) :
    Rel (step s (.recvResponse m)).1 (CallSpec.step a (.recvResponse m)).1 ∧
      obs (step s (.recvResponse m)).2 = (CallSpec.step a (.recvResponse m)).2 := by
  cases hl : dlookup m.callId s.requests with
  | none =>
    -- unknown or duplicate id: nothing changes on either side
    have hno : ∀ c ∈ a.calls, c.id = m.callId → c.resp ≠ none := fun c hcm e hr => by
      have := (ho.pending c hcm hr).1
      rw [e, hl] at this; cases this
    rw [step_unknown_response s m hl, spec_response_inert hno]
    exact ⟨.of_open hb hc ho, rfl⟩
  | some t =>
    simp only [step, CallSpec.step, hl]
    show Rel _ { a with calls := a.calls.map (upd m) } ∧ _
    obtain ⟨c, hcm, hci, hct, hcr⟩ := ho.reqs _ _ hl
    -- ids are unique: the response fills the slot of `c` and touches no other call
    have hupdc : upd m c = { c with resp := some m } := by simp [upd, hci, hcr]
    have hupd : ∀ c0 : SCall, c0.id ≠ m.callId → upd m c0 = c0 := fun c0 hne => by simp [upd, hne]
    have hother : ∀ c0 ∈ a.calls, c0 ≠ c → c0.id ≠ m.callId :=
      fun c0 h0 hne e => hne (ho.idsInj c0 h0 c hcm (e.trans hci.symm))
    refine ⟨.of_open ⟨hb.nextId, hb.nextTask, hb.closed, ?_⟩ hc ?_, rfl⟩
    · rw [map_proj_upd]; exact hb.frames
    · constructor
      case tasksLt =>
        intro c' h
        obtain ⟨c0, h0, rfl⟩ := List.mem_map.mp h
        simpa using ho.tasksLt c0 h0
      case firedLt =>
        intro t' h
        rcases List.mem_cons.mp h with rfl | h
        · rw [← hct]; exact ho.tasksLt c hcm
        · exact ho.firedLt t' h
      case reqsLt => exact fun p h => ho.reqsLt p (mem_derase h)
      case tasksInj =>
        intro c1 h1 c2 h2 e
        obtain ⟨d1, g1, rfl⟩ := List.mem_map.mp h1
        obtain ⟨d2, g2, rfl⟩ := List.mem_map.mp h2
        rw [upd_task, upd_task] at e
        rw [ho.tasksInj d1 g1 d2 g2 e]
      case idsInj =>
        intro c1 h1 c2 h2 e
        obtain ⟨d1, g1, rfl⟩ := List.mem_map.mp h1
        obtain ⟨d2, g2, rfl⟩ := List.mem_map.mp h2
        rw [upd_id, upd_id] at e
        rw [ho.idsInj d1 g1 d2 g2 e]
      case pending =>
        intro c' h hr
        obtain ⟨c0, h0, rfl⟩ := List.mem_map.mp h
        by_cases hc0 : c0 = c
        · subst hc0; rw [hupdc] at hr; cases hr
        · have hne := hother c0 h0 hc0
          rw [hupd c0 hne] at hr ⊢
          obtain ⟨p1, p2⟩ := ho.pending c0 h0 hr
          refine ⟨(dlookup_derase_ne hne _).trans p1, fun hm => ?_⟩
          rcases List.mem_cons.mp hm with e | hm
          · exact hc0 (ho.tasksInj c0 h0 c hcm (e.trans hct.symm))
          · exact p2 hm
      case answered =>
        intro c' h m' hr
        obtain ⟨c0, h0, rfl⟩ := List.mem_map.mp h
        by_cases hc0 : c0 = c
        · subst hc0
          rw [hupdc] at hr ⊢
          cases hr
          exact ⟨by simp [hci], by simp [hci], by simp [hct]⟩
        · have hne := hother c0 h0 hc0
          rw [hupd c0 hne] at hr ⊢
          obtain ⟨a1, a2, a3⟩ := ho.answered c0 h0 m' hr
          exact ⟨(dlookup_dset_ne hne _ _).trans a1, (dlookup_derase_ne hne _).trans a2, List.mem_cons_of_mem _ a3⟩
      case reqs =>
        intro i t' hl'
        by_cases hi : i = m.callId
        · subst hi; simp at hl'
        · rw [dlookup_derase_ne hi] at hl'
          obtain ⟨c0, h0, e1, e2, e3⟩ := ho.reqs i t' hl'
          exact ⟨c0, List.mem_map.mpr ⟨c0, h0, hupd c0 (e1 ▸ hi)⟩, e1, e2, e3⟩

theorem step_open_cleanup {s : State} {a : CallSpec} (hb : Base s a) (hc : s.closed = false) (ho : Open s a) :
    Rel (doCleanup s).1 { a with closed := true } ∧ obs (doCleanup s).2 = [] := by
  simp only [doCleanup, hc, Bool.false_eq_true, if_false]
  refine ⟨.of_closed ⟨hb.nextId, hb.nextTask, rfl, hb.frames⟩ rfl fun c hcm => ?_, rfl⟩
  cases hr : c.resp with
  | none =>
    have := mem_of_alookup (dlookup_eq ▸ (ho.pending c hcm hr).1)
    exact List.mem_append_left _ (List.mem_map.mpr ⟨_, this, rfl⟩)
  | some m => exact List.mem_append_right _ (ho.answered c hcm m hr).2.2

theorem step_open_wake {s : State} {a : CallSpec} (hb : Base s a) (hc : s.closed = false) (ho : Open s a) (t : Nat) :
    Rel (step s (.wake t)).1 (CallSpec.step a (.wake t)).1 ∧
      obs (step s (.wake t)).2 = (CallSpec.step a (.wake t)).2 := by
  have hca : a.closed = false := hb.closed ▸ hc
  simp only [step, CallSpec.step]
  rw [hb.frames, dlookup_proj]
  cases hs : sfind t a.calls with
  | none =>
    exact ⟨.of_open hb hc ho, rfl⟩
  | some c =>
    obtain ⟨hcm, hct⟩ := sfind_some hs
    simp only [Option.map_some, hc, hca, Bool.false_eq_true, if_false]
    cases hr : c.resp with
    | none =>
      have hnf : t ∉ s.fired := hct ▸ (ho.pending c hcm hr).2
      simp only [hnf, if_false]
      exact ⟨.of_open hb hc ho, rfl⟩
    | some m =>
      obtain ⟨a1, a2, a3⟩ := ho.answered c hcm m hr
      have htf : t ∈ s.fired := hct ▸ a3
      simp only [htf, if_true, a1]
      refine ⟨.of_open ⟨hb.nextId, hb.nextTask, rfl, derase_proj t a.calls⟩ rfl ?_, rfl⟩
      · have sub : ∀ c' ∈ a.calls.filter (·.task ≠ t), c' ∈ a.calls ∧ c'.task ≠ t := by
          intro c' h; have := List.mem_filter.mp h; exact ⟨this.1, by simpa using this.2⟩
        constructor
        case tasksLt => exact fun c' h => ho.tasksLt c' (sub c' h).1
        case firedLt => exact ho.firedLt
        case reqsLt => exact ho.reqsLt
        case tasksInj => exact fun c1 h1 c2 h2 e => ho.tasksInj c1 (sub c1 h1).1 c2 (sub c2 h2).1 e
        case idsInj => exact fun c1 h1 c2 h2 e => ho.idsInj c1 (sub c1 h1).1 c2 (sub c2 h2).1 e
        case pending => exact fun c' h hr' => ho.pending c' (sub c' h).1 hr'
        case answered =>
          intro c' h m' hr'
          obtain ⟨b1, b2, b3⟩ := ho.answered c' (sub c' h).1 m' hr'
          have hne : c'.id ≠ c.id := by
            intro e
            have := ho.idsInj c' (sub c' h).1 c hcm e
            exact (sub c' h).2 (this ▸ hct)
          exact ⟨by rw [dlookup_derase_ne hne]; exact b1, b2, b3⟩
        case reqs =>
          intro i t' hl
          obtain ⟨c0, h0, e1, e2, e3⟩ := ho.reqs i t' hl
          refine ⟨c0, List.mem_filter.mpr ⟨h0, ?_⟩, e1, e2, e3⟩
          simp only [ne_eq, decide_not, Bool.not_eq_eq_eq_not, Bool.not_true, decide_eq_false_iff_not]
          intro e
          have := ho.tasksInj c0 h0 c hcm (by rw [e, hct])
          rw [this, hr] at e3; cases e3

theorem step_refines {s : State} {a : CallSpec} (hR : Rel s a) (op : Op) (hf : FreshId s op) :
    Rel (step s op).1 (CallSpec.step a op).1 ∧ obs (step s op).2 = (CallSpec.step a op).2 := by
  cases hc : s.closed with
  | true => exact step_closed hR.base hc (hR.cls hc) op
  | false =>
    have ho := hR.opn hc
    cases op with
    | call nr =>
      cases nr with
      | true => exact step_open_call_noresp hR.base hc ho
      | false => exact step_open_call hR.base hc ho (hf hc)
    | recvResponse m => exact step_open_response hR.base hc ho m
    | recvRequest => exact ⟨.of_open hR.base hc ho, rfl⟩
    | eof => simpa [step, CallSpec.step] using step_open_cleanup hR.base hc ho
    | cleanup => simpa [step, CallSpec.step] using step_open_cleanup hR.base hc ho
    | wake t => exact step_open_wake hR.base hc ho t

theorem obs_append (x y : List Out) : obs (x ++ y) = obs x ++ obs y := by simp [obs]

theorem run_refines {s : State} {a : CallSpec} (hR : Rel s a) (ops : List Op) (hd : distinctLive s ops = true) :
    Rel (run s ops).1 (CallSpec.run a ops).1 ∧ obs (run s ops).2 = (CallSpec.run a ops).2 := by
  induction ops generalizing s a with
  | nil => exact ⟨hR, rfl⟩
  | cons op rest ih =>
    obtain ⟨hf, hd'⟩ := freshId_of_distinctLive s op rest hd
    obtain ⟨hR1, ho1⟩ := step_refines hR op hf
    obtain ⟨hR2, ho2⟩ := ih hR1 hd'
    simp only [run, CallSpec.run]
    exact ⟨hR2, by rw [obs_append, ho1, ho2]⟩

theorem response_inert {s : State} {a : CallSpec} (hR : Rel s a) (hc : s.closed = false) (m : Msg)
    (hno : ∀ c ∈ a.calls, c.id = m.callId → c.resp ≠ none) :
    step s (.recvResponse m) = (s, [.warnInvalidCallId m.callId]) ∧
      (CallSpec.step a (.recvResponse m)).1 = a := by
  have ho := hR.opn hc
  have hl : dlookup m.callId s.requests = none := by
    cases h : dlookup m.callId s.requests with
    | none => rfl
    | some t =>
      obtain ⟨c, hcm, e1, _, e3⟩ := ho.reqs _ _ h
      exact absurd e3 (hno c hcm e1)
  exact ⟨step_unknown_response s m hl, spec_response_inert hno⟩

/-- after closure no hypothesis on ids is needed (compare `run_refines`) -/
theorem run_closed {s : State} {a : CallSpec} (hR : Rel s a) (hc : s.closed = true) (ops : List Op) :
    Rel (run s ops).1 (CallSpec.run a ops).1 ∧ (run s ops).1.closed = true ∧
      obs (run s ops).2 = (CallSpec.run a ops).2 := by
  induction ops generalizing s a with
  | nil => exact ⟨hR, hc, rfl⟩
  | cons op rest ih =>
    obtain ⟨hR1, ho1⟩ := step_closed hR.base hc (hR.cls hc) op
    obtain ⟨hR2, hc2, ho2⟩ := ih hR1 (step_closed_stays s op hc)
    simp only [run, CallSpec.run]
    exact ⟨hR2, hc2, by rw [obs_append, ho1, ho2]⟩

theorem closed_frames_ready {s : State} {a : CallSpec} (hR : Rel s a) (hc : s.closed = true) (p : Nat × Nat)
    (hp : p ∈ s.frames) :
    p.1 ∈ s.fired ∧ (step s (.wake p.1)).2 = [.done p.1 .closed] := by
  have hf : p.1 ∈ s.fired := by
    rw [hR.base.frames] at hp
    obtain ⟨c, hcm, rfl⟩ := List.mem_map.mp hp
    exact hR.cls hc c hcm
  cases hl : dlookup p.1 s.frames with
  | none => exact absurd rfl (alookup_eq_none_iff.mp (dlookup_eq ▸ hl) p hp)
  | some id => exact ⟨hf, by simp [step, hl, hf, hc]⟩

theorem doCleanup_closed (s : State) : (doCleanup s).1.closed = true := by
  cases h : s.closed <;> simp [doCleanup, h]

theorem close_wakes {s : State} {a : CallSpec} (hR : Rel s a) (closeOp : Op) (hclose : closeOp = .eof ∨ closeOp = .cleanup)
    (later : List Op) :
    let s' := (run (step s closeOp).1 later).1
    s'.closed = true ∧ ∀ p ∈ s'.frames, p.1 ∈ s'.fired ∧ (step s' (.wake p.1)).2 = [.done p.1 .closed] := by
  have hf : FreshId s closeOp := by rcases hclose with rfl | rfl <;> trivial
  have hc : (step s closeOp).1.closed = true := by rcases hclose with rfl | rfl <;> exact doCleanup_closed s
  obtain ⟨hR', hc', _⟩ := run_closed (step_refines hR closeOp hf).1 hc later
  exact ⟨hc', closed_frames_ready hR' hc'⟩

theorem wake_answered {s : State} {a : CallSpec} (hR : Rel s a) (hc : s.closed = false) (c : SCall)
    (hcm : c ∈ a.calls) (m : Msg) (hr : c.resp = some m) :
    (step s (.wake c.task)).2 = [.done c.task (outcomeOf m)] := by
  have ho := hR.opn hc
  obtain ⟨a1, _, a3⟩ := ho.answered c hcm m hr
  have hfind : sfind c.task a.calls = some c := by
    cases h : sfind c.task a.calls with
    | none => exact absurd rfl (sfind_none h c hcm)
    | some c' =>
      obtain ⟨h1, h2⟩ := sfind_some h
      rw [ho.tasksInj c' h1 c hcm h2]
  simp [step, hR.base.frames, dlookup_proj, hfind, a3, hc, a1]

/-- open: a call without response is not resumable -/
theorem pending_not_ready {s : State} {a : CallSpec} (hR : Rel s a) (hc : s.closed = false) (c : SCall)
    (hcm : c ∈ a.calls) (hr : c.resp = none) : c.task ∉ s.fired :=
  ((hR.opn hc).pending c hcm hr).2

/-! ### no cross-talk: history of the specification machine

`R` = the responses received and `S` = the (task, id) of the requests sent in the WHOLE run: the history is a fixed
upper bound, so nothing has to be said about when an entry joined it. -/
section hist
variable (R : Msg → Prop) (S : Nat → Nat → Prop)

def HistInv (a : CallSpec) : Prop :=
  ∀ c ∈ a.calls, S c.task c.id ∧ ∀ m, c.resp = some m → R m ∧ m.callId = c.id

/-- a completed call: closed, response-less, or the outcome of a received response with the id it sent -/
def Explained (t : Nat) (o : Outcome) : Prop :=
  o = .closed ∨ o = .none ∨ ∃ id m, S t id ∧ R m ∧ m.callId = id ∧ o = outcomeOf m

variable {R S}

theorem Explained.imp {R' : Msg → Prop} {S' : Nat → Nat → Prop} {t : Nat} {o : Outcome} (h : Explained R S t o)
    (hS : ∀ id, S t id → S' t id) (hR : ∀ m, R m → R' m) : Explained R' S' t o :=
  h.imp_right (.imp_right fun ⟨id, m, s1, s2, s3⟩ => ⟨id, m, hS id s1, hR m s2, s3⟩)

theorem spec_step_hist (a : CallSpec) (op : Op) (h : HistInv R S a) (hR : ∀ m, op = .recvResponse m → R m)
    (hS : ∀ t id, Out.sent t id ∈ (CallSpec.step a op).2 → S t id) :
    HistInv R S (CallSpec.step a op).1 ∧ ∀ t o, Out.done t o ∈ (CallSpec.step a op).2 → Explained R S t o := by
  have drop : ∀ t, HistInv R S { a with calls := a.calls.filter (·.task ≠ t) } :=
    fun t c hc => h c (List.mem_filter.mp hc).1
  cases op with
  | call nr =>
    simp only [CallSpec.step] at hS ⊢
    by_cases hcl : a.closed = true
    · rw [if_pos hcl]; exact ⟨h, fun t o hd => by simp at hd; exact .inl hd.2⟩
    · rw [if_neg hcl] at hS ⊢
      cases nr with
      | true => exact ⟨h, fun t o hd => by simp at hd; exact .inr (.inl hd.2)⟩
      | false =>
        refine ⟨fun c hc => ?_, fun t o hd => by simp at hd⟩
        rcases List.mem_cons.mp hc with rfl | hc
        · exact ⟨hS _ _ (by simp), fun m hm => by simp at hm⟩
        · exact h c hc
  | recvResponse m =>
    refine ⟨fun c hc => ?_, fun t o hd => by simp [CallSpec.step] at hd⟩
    obtain ⟨c0, h0, rfl⟩ := List.mem_map.mp hc
    obtain ⟨h1, h2⟩ := h c0 h0
    split
    · rename_i hu
      exact ⟨h1, fun m' hm' => by simp at hm'; subst hm'; exact ⟨hR _ rfl, hu.1.symm⟩⟩
    · exact ⟨h1, h2⟩
  | recvRequest => exact ⟨h, fun t o hd => by simp [CallSpec.step] at hd⟩
  | eof => exact ⟨h, fun t o hd => by simp [CallSpec.step] at hd⟩
  | cleanup => exact ⟨h, fun t o hd => by simp [CallSpec.step] at hd⟩
  | wake t =>
    simp only [CallSpec.step]
    cases hs : sfind t a.calls with
    | none => exact ⟨h, fun t' o hd => by simp at hd⟩
    | some c =>
      obtain ⟨hcm, hct⟩ := sfind_some hs
      simp only
      split
      · exact ⟨drop t, fun t' o hd => by simp at hd; exact .inl hd.2⟩
      · cases hr : c.resp with
        | none => exact ⟨h, fun t' o hd => by simp at hd⟩
        | some m =>
          refine ⟨drop t, fun t' o hd => ?_⟩
          simp at hd
          obtain ⟨rfl, rfl⟩ := hd
          obtain ⟨h1, h2⟩ := h c hcm
          exact .inr (.inr ⟨c.id, m, hct ▸ h1, (h2 m hr).1, (h2 m hr).2, rfl⟩)

theorem spec_run_hist (a : CallSpec) (ops : List Op) (h : HistInv R S a) (hR : ∀ m, Op.recvResponse m ∈ ops → R m)
    (hS : ∀ t id, Out.sent t id ∈ (CallSpec.run a ops).2 → S t id) :
    ∀ t o, Out.done t o ∈ (CallSpec.run a ops).2 → Explained R S t o := by
  induction ops generalizing a with
  | nil => intro t o hd; cases hd
  | cons op rest ih =>
    simp only [CallSpec.run, List.mem_append] at hS ⊢
    obtain ⟨hI, hE⟩ := spec_step_hist a op h (fun m e => hR m (e ▸ List.mem_cons_self))
      fun t id hs => hS t id (.inl hs)
    exact fun t o hd => hd.elim (hE t o)
      (ih _ hI (fun m hm => hR m (List.mem_cons_of_mem _ hm)) (fun t id hs => hS t id (.inr hs)) t o)

end hist

theorem mem_obs {x : Out} {l : List Out} : x ∈ obs l ↔ x ∈ l ∧ x.observable = true := by
  simp [obs, List.mem_filter]

/-- no cross-talk: whatever a call completes with is explained by its own request and a response carrying that
    request's id — read off the specification's history through the refinement -/
theorem run_no_cross_talk (ops : List Op) (hd : distinctLive init ops = true) (t : Nat) (o : Outcome)
    (h : Out.done t o ∈ (run init ops).2) :
    Explained (fun m => Op.recvResponse m ∈ ops) (fun t id => Out.sent t id ∈ (run init ops).2) t o := by
  have href : obs (run init ops).2 = (CallSpec.run CallSpec.init ops).2 := (run_refines (rel_init 1) ops hd).2
  have toSpec : ∀ x : Out, x.observable = true → (x ∈ (run init ops).2 ↔ x ∈ (CallSpec.run CallSpec.init ops).2) :=
    fun x hx => by rw [← href, mem_obs]; exact ⟨fun hm => ⟨hm, hx⟩, fun hm => hm.1⟩
  exact spec_run_hist CallSpec.init ops (fun c hc => nomatch hc) (fun m hm => hm)
    (fun t id hs => (toSpec _ rfl).mpr hs) t o ((toSpec _ rfl).mp h)

end Nx.RmcClient
