import NxModel.Nex.Schema
import NxProofs.Bytes
/-! The schema interpreter's decoder inverts its encoder (C13, C14). The fuel enters in ONE induction, `encGo_rt`; every lemma
before it is about one layer (`Ty`, `Items`, one class level) and takes what it needs from nested structure instances as a
hypothesis on the hooks (`HookRT`), which `encGo_rt` discharges with its induction hypothesis. After the round trip: what the
well-formedness checks of the generated file give (`WFEnv`, `wfEnv_methods`), the version gates of C13 (`Items.active`, `gatesAgree`,
`exists_threshold`) and the forward compatibility of C14 (`revAscending_sound`, `revsBelow_of_noRev`, `decItems_ver`). -/
namespace Nx.Schema

/-! ## what a successful encoder tells

The interpreter propagates errors with explicit `match x with | .error e => .error e | .ok b => …`. Lean compiles all of
them to three functions, one per type of `x` and order of the cases, named after the first definition that has one. Stated
on those, a lemma applies to every such `match` of the model, and to `h : encX … = .ok c` as it stands. -/

theorem match_ok {β : Type} {x : Except Err Bytes} {k : Bytes → Except Err β} {c : β}
    (h : encList.match_1 (fun _ => Except Err β) x (fun e => .error e) k = .ok c) : ∃ b, x = .ok b ∧ k b = .ok c := by
  cases x with
  | error e => cases h
  | ok b => exact ⟨b, rfl, h⟩

/-- `match_ok` for the matches that list the `.ok` case first -/
theorem match_ok' {β : Type} {x : Except Err Bytes} {k : Bytes → Except Err β} {c : β}
    (h : encVariant.match_1 (fun _ => Except Err β) x k (fun e => .error e) = .ok c) : ∃ b, x = .ok b ∧ k b = .ok c := by
  cases x with
  | error e => cases h
  | ok b => exact ⟨b, rfl, h⟩

/-- `match_ok` for the encoders that also return the attributes not yet consumed -/
theorem match_pair_ok {β : Type} {x : Except Err (Bytes × List Val)} {k : Bytes → List Val → Except Err β} {c : β}
    (h : encItems.match_1 (fun _ => Except Err β) x (fun e => .error e) k = .ok c) :
    ∃ b vs, x = .ok (b, vs) ∧ k b vs = .ok c := by
  cases x with
  | error e => cases h
  | ok p => exact ⟨p.1, p.2, rfl, h⟩

theorem rdN_leN (w : W) (n : Nat) (r : Bytes) (h : n < 2 ^ w.bits) : rdN w (leN w n ++ r) = .ok (n, r) := by
  cases w
  · exact rdU8_u8 n r h
  · exact rdU16_u16le n r h
  · exact rdU32_u32le n r h
  · exact rdU64_u64le n r h

theorem W.bits_pos (w : W) : 0 < w.bits := by cases w <;> decide

theorem encUInt_rd {w : W} {i : Int} {b : Bytes} (r : Bytes) (h : encUInt w i = .ok b) :
    rdN w (b ++ r) = .ok (i.toNat, r) ∧ (i.toNat : Int) = i := by
  obtain ⟨hc, rfl⟩ := guard_ok h
  exact ⟨rdN_leN w _ r ((Int.toNat_lt hc.1).mpr (by push_cast; exact hc.2)), Int.toNat_of_nonneg hc.1⟩

theorem encUInt_rt {w : W} {i : Int} {b : Bytes} (r : Bytes) (h : encUInt w i = .ok b) :
    intOk (rdN w (b ++ r)) = .ok (.int i, r) := by
  obtain ⟨h1, h2⟩ := encUInt_rd r h
  rw [h1, intOk, h2]

/-- two's complement on any number of bits: the residue of an `i` in range fits, and reading the residues from the sign
bit on as negative gives `i` back. Only `2 ^ bits = 2 * 2 ^ (bits - 1)` matters: the power becomes a variable for `omega`. -/
theorem twos_rt {bits : Nat} (hb : 0 < bits) {i : Int} (h1 : -((2 : Int) ^ (bits - 1)) ≤ i) (h2 : i < (2 : Int) ^ (bits - 1))
    {n : Nat} (hn : n = (i % (2 : Int) ^ bits).toNat) :
    n < 2 ^ bits ∧ (if n ≥ 2 ^ (bits - 1) then (n : Int) - (2 : Int) ^ bits else (n : Int)) = i := by
  subst hn
  obtain ⟨k, rfl⟩ : ∃ k, bits = k + 1 := ⟨bits - 1, by omega⟩
  have ep : (2 : Int) ^ k = ((2 ^ k : Nat) : Int) := by norm_cast
  rw [Nat.add_sub_cancel, ep] at h1 h2
  rw [Nat.add_sub_cancel, Int.pow_succ, Nat.pow_succ, ep]
  generalize 2 ^ k = p at h1 h2 ⊢
  -- the residue is `i` itself or `i + 2p`
  by_cases hi : 0 ≤ i
  · rw [Int.emod_eq_of_lt hi (by omega), if_neg (by omega)]
    omega
  · rw [← Int.add_mul_emod_self_left i (p * 2) 1, Int.emod_eq_of_lt (by omega) (by omega), if_pos (by omega)]
    omega

theorem encSInt_rt {w : W} {i : Int} {b : Bytes} (r : Bytes) (h : encSInt w i = .ok b) :
    decSInt w (b ++ r) = .ok (i, r) := by
  obtain ⟨hc, rfl⟩ := guard_ok h
  obtain ⟨hn, hv⟩ := twos_rt w.bits_pos hc.1 hc.2 rfl
  unfold decSInt
  rw [rdN_leN w _ r hn]
  exact congrArg (fun x => Except.ok (x, r)) hv

theorem encStr_rt {s b : Bytes} (r : Bytes) (h : encStr s = .ok b) : decStr (b ++ r) = .ok (some s, r) := by
  obtain ⟨hc, rfl⟩ := guard_ok h
  have := rd_append (s ++ [0]) r
  rw [List.length_append, List.append_assoc, List.length_singleton] at this
  simp only [decStr, List.append_assoc, rdU16_u16le _ _ hc, if_neg (Nat.succ_ne_zero _), this, List.dropLast_concat]

/-- a length-prefixed block, as `buffer`, the structure header and both frames of `anydata` have it -/
theorem decBuf_append (d r : Bytes) (hl : d.length < 4294967296) : decBuf (u32le d.length ++ (d ++ r)) = .ok (d, r) := by
  unfold decBuf; rw [rdU32_u32le _ _ hl]; exact rd_append d r

theorem encBuf_rt {d b : Bytes} (r : Bytes) (h : encBuf d = .ok b) : decBuf (b ++ r) = .ok (d, r) := by
  obtain ⟨hc, rfl⟩ := guard_ok h
  exact decBuf_append d r hc

theorem encQBuf_rt {d b : Bytes} (r : Bytes) (h : encQBuf d = .ok b) : decQBuf (b ++ r) = .ok (d, r) := by
  obtain ⟨hc, rfl⟩ := guard_ok h
  unfold decQBuf
  rw [List.append_assoc, rdU16_u16le _ _ hc]
  exact rd_append d r

theorem encVariant_rt {v : Val} {b : Bytes} (r : Bytes) (h : encVariant v = .ok b) :
    decVariant (b ++ r) = .ok (v, r) := by
  -- the tag is a literal byte: `simp` evaluates the decoder's dispatch on it, then the payload's own round trip applies
  cases v <;> try contradiction
  case none => cases h; rfl
  case bool x => cases h; cases x <;> rfl
  case int i =>
    rw [encVariant] at h
    by_cases hi : i < 0
    · rw [if_pos hi] at h
      obtain ⟨b', hb, h⟩ := match_ok' h
      cases h
      simp [decVariant, rdU8, encSInt_rt r hb]
    · rw [if_neg hi] at h
      obtain ⟨b', hb, h⟩ := match_ok' h
      cases h
      obtain ⟨h1, h2⟩ := encUInt_rd r hb
      simp [decVariant, rdU8, show rdU64 (b' ++ r) = _ from h1, h2]
  case str s =>
    obtain ⟨b', hb, h⟩ := match_ok' h
    cases h
    simp [decVariant, rdU8, encStr_rt r hb]
  case dbl n =>
    obtain ⟨hn, rfl⟩ := guard_ok h
    simp [decVariant, rdU8, rdU64_u64le _ r hn]
  case dt n =>
    obtain ⟨hn, rfl⟩ := guard_ok h
    simp [decVariant, rdU8, rdU64_u64le _ r hn]

theorem encList_rt {f : Val → Except Err Bytes} {g : Bytes → Except Err (Val × Bytes)} {vis : Val → Val}
    (H : ∀ v b r, f v = .ok b → g (b ++ r) = .ok (vis v, r)) :
    ∀ (vs : List Val) (b r : Bytes), encList f vs = .ok b → decList g vs.length (b ++ r) = .ok (vs.map vis, r) := by
  intro vs
  induction vs with
  | nil => intro b r h; cases h; rfl
  | cons v vs ih =>
    intro b r h
    obtain ⟨b1, hb1, h⟩ := match_ok h
    obtain ⟨bs, hbs, h⟩ := match_ok h
    cases h
    simp only [List.length_cons, decList, List.append_assoc, H v b1 _ hb1, ih bs r hbs, List.map_cons]

theorem encPairs_rt {fk fv : Val → Except Err Bytes} {gk gv : Bytes → Except Err (Val × Bytes)} {visk visv : Val → Val}
    (Hk : ∀ v b r, fk v = .ok b → gk (b ++ r) = .ok (visk v, r))
    (Hv : ∀ v b r, fv v = .ok b → gv (b ++ r) = .ok (visv v, r)) :
    ∀ (kvs : List (Val × Val)) (b r : Bytes), encPairs fk fv kvs = .ok b →
      decPairs gk gv kvs.length (b ++ r) = .ok (kvs.map (fun kv => (visk kv.1, visv kv.2)), r) := by
  intro kvs
  induction kvs with
  | nil => intro b r h; cases h; rfl
  | cons kv kvs ih =>
    intro b r h
    obtain ⟨k, v⟩ := kv
    obtain ⟨bk, hbk, h⟩ := match_ok h
    obtain ⟨bv, hbv, h⟩ := match_ok h
    obtain ⟨bs, hbs, h⟩ := match_ok h
    cases h
    simp only [List.length_cons, decPairs, List.append_assoc, Hk k bk _ hbk, Hv v bv _ hbv, ih bs r hbs, List.map_cons]

/-- what the interpreter needs from the hooks for nested structure instances -/
def HookRT (E : EncHook) (D : DecHook) (V : VisHook) : Prop :=
  ∀ n fs b r, E n fs = .ok b → D n (b ++ r) = .ok (V n fs, r)

theorem encTy_rt (env : Env) (cfg : Cfg) {E : EncHook} {D : DecHook} {V : VisHook} (H : HookRT E D V) :
    ∀ (ty : Ty) (v : Val) (b r : Bytes),
      encTy E env cfg ty v = .ok b → decTy D env cfg ty (b ++ r) = .ok (visTy V ty v, r) := by
  intro ty
  induction ty <;> intro v b r h
  case variant => exact encVariant_rt r h
  -- on a value of the wrong shape for its type `encTy` evaluates to `Err.type` (`contradiction`); the accepted shapes remain
  all_goals cases v <;> try contradiction
  case uint.int w i => exact encUInt_rt r h
  case sint.int w i => simp only [decTy, visTy, encSInt_rt r h]
  case float.int i => exact encUInt_rt (w := .b4) r h
  case double.int i => exact encUInt_rt (w := .b8) r h
  case bool.bool x => cases h; cases x <;> rfl
  case pid.int i =>
    simp only [encTy] at h
    split at h
    · rename_i hp; simp only [decTy, if_pos hp]; exact encUInt_rt (w := .b8) r h
    · rename_i hp; simp only [decTy, if_neg hp]; exact encUInt_rt (w := .b4) r h
  case result.int i => exact encUInt_rt (w := .b4) r h
  case datetime.int i => exact encUInt_rt (w := .b8) r h
  case string.none => cases h; rfl
  case string.str s => simp only [decTy, visTy, encStr_rt r h]
  case stationurl.str s => simp only [decTy, visTy, encStr_rt r h]
  case buffer.bytes d => simp only [decTy, visTy, encBuf_rt r h]
  case qbuffer.bytes d => simp only [decTy, visTy, encQBuf_rt r h]
  case list.list t ih vs =>
    obtain ⟨hl, h⟩ := ite_ok h
    obtain ⟨b', hb', h⟩ := match_ok' h
    cases h
    simp only [decTy, visTy, List.append_assoc, rdU32_u32le _ _ hl, encList_rt ih vs b' r hb']
  case map.map k v ihk ihv kvs =>
    obtain ⟨hl, h⟩ := ite_ok h
    obtain ⟨b', hb', h⟩ := match_ok' h
    cases h
    simp only [decTy, visTy, List.append_assoc, rdU32_u32le _ _ hl, encPairs_rt ihk ihv kvs b' r hb']
  case struct.obj n cls fs =>
    obtain ⟨rfl, h⟩ := ite_ok h
    simp only [decTy, visTy, H _ _ _ r h]
  case anydata.obj cls fs =>
    rw [encTy] at h
    cases hd : lookupReg env (nameBytes cls) with
    | none => rw [hd] at h; cases h
    | some d =>
      rw [hd] at h
      obtain ⟨hname, h⟩ := of_ite_error h
      obtain ⟨nm, hnm, h⟩ := match_ok h
      obtain ⟨body, hbody, h⟩ := match_ok h
      obtain ⟨hlen, rfl⟩ := guard_ok h
      -- name, then the outer frame (the inner one with its own prefix), the inner frame, the instance
      have h1 := encStr_rt (u32le (body.length + 4) ++ (u32le body.length ++ (body ++ r))) hnm
      have h2 := decBuf_append (u32le body.length ++ body) r (by simp only [List.length_append, u32le_length]; omega)
      have h3 := decBuf_append body [] (by omega)
      have h4 := H cls fs body [] hbody
      simp only [List.append_nil, List.length_append, u32le_length, Nat.add_comm 4, List.append_assoc] at h2 h3 h4
      simp only [decTy, visTy, List.append_assoc, h1, h2, h3, hd, Decidable.not_not.mp hname, h4]

theorem encItems_rt (env : Env) (cfg : Cfg) (ver : Nat) {E : EncHook} {D : DecHook} {V : VisHook} (H : HookRT E D V) :
    ∀ (it : Items) (vs : List Val) (b : Bytes) (vs' : List Val) (r : Bytes),
      encItems E env cfg ver it vs = .ok (b, vs') →
      decItems D env cfg ver it (b ++ r) = .ok ((visItems V cfg ver it vs).1, r)
        ∧ (visItems V cfg ver it vs).2 = vs' := by
  intro it
  induction it with
  | nil =>
    intro vs b vs' r h
    cases h
    exact ⟨rfl, rfl⟩
  | field n ty dflt rest ih =>
    intro vs b vs' r h
    cases vs with
    | nil => cases h
    | cons v vs =>
      obtain ⟨b1, hb1, h⟩ := match_ok h
      obtain ⟨bs, vs'', hbs, h⟩ := match_pair_ok h
      cases h
      have h1 := encTy_rt env cfg H ty v b1 (bs ++ r) hb1
      obtain ⟨h2, h3⟩ := ih vs bs vs' r hbs
      simp only [decItems, visItems, List.append_assoc, h1, h2, h3, and_self]
  -- the two kinds of block differ only in the number the gate compares with
  | nex g body rest ihb ihr | rev g body rest ihb ihr =>
    intro vs b vs' r h
    rw [encItems] at h
    split at h
    · rename_i hg
      obtain ⟨b1, vs1, hb1, h⟩ := match_pair_ok h
      obtain ⟨bs, vs2, hbs, h⟩ := match_pair_ok h
      cases h
      obtain ⟨h1, h1'⟩ := ihb vs b1 vs1 (bs ++ r) hb1
      obtain ⟨h2, h2'⟩ := ihr vs1 bs vs' r hbs
      simp only [decItems, visItems, if_pos hg, List.append_assoc, h1, h1', h2, h2', and_self]
    · rename_i hg
      obtain ⟨h2, h2'⟩ := ihr _ b vs' r h
      simp only [decItems, visItems, if_neg hg, h2, h2', and_self]

theorem encClass_header {E : EncHook} {env : Env} {cfg : Cfg} {ver : Nat} {leaf : Items × List Val} {d : StructDef}
    {vs vs' : List Val} {b : Bytes} (hh : cfg.structHeader = true)
    (h : encClass E env cfg ver leaf d vs = .ok (b, vs')) :
    ∃ body, encItems E env cfg ver d.items vs = .ok (body, vs') ∧ ver < 256 ∧ body.length < 4294967296
      ∧ b = u8 ver ++ u32le body.length ++ body := by
  unfold encClass at h
  rw [if_pos hh] at h
  obtain ⟨_, h⟩ := of_ite_error h
  obtain ⟨body, vs'', hb, h⟩ := match_pair_ok h
  obtain ⟨hv, h⟩ := of_ite_error h
  obtain ⟨hl, h⟩ := of_ite_error h
  cases h
  exact ⟨body, hb, by omega, by omega, rfl⟩

theorem encClass_noheader {E : EncHook} {env : Env} {cfg : Cfg} {ver : Nat} {leaf : Items × List Val} {d : StructDef}
    {vs vs' : List Val} {b : Bytes} (hh : cfg.structHeader = false)
    (h : encClass E env cfg ver leaf d vs = .ok (b, vs')) :
    encItems E env cfg 0 d.items vs = .ok (b, vs') := by
  unfold encClass at h
  rw [if_neg (by simp [hh])] at h
  exact (of_ite_error h).2

theorem decClass_header (D : DecHook) (env : Env) (cfg : Cfg) (d : StructDef) (hh : cfg.structHeader = true)
    (ver : Nat) (hv : ver < 256) (sub r : Bytes) (hl : sub.length < 4294967296) :
    decClass D env cfg d (u8 ver ++ u32le sub.length ++ sub ++ r) =
      (match decItems D env cfg ver d.items sub with
       | .error e => .error e
       | .ok (vs, _) => .ok (vs, r)) := by
  simp only [decClass, if_pos hh, List.append_assoc, rdU8_u8 _ _ hv, decBuf_append sub r hl]
  rfl

theorem encClass_rt (env : Env) (cfg : Cfg) (ver : Nat) (leaf : Items × List Val) (d : StructDef)
    {E : EncHook} {D : DecHook} {V : VisHook} (H : HookRT E D V)
    (vs : List Val) (b : Bytes) (vs' : List Val) (r : Bytes)
    (h : encClass E env cfg ver leaf d vs = .ok (b, vs')) :
    decClass D env cfg d (b ++ r)
        = .ok ((visItems V cfg (if cfg.structHeader then ver else 0) d.items vs).1, r)
      ∧ (visItems V cfg (if cfg.structHeader then ver else 0) d.items vs).2 = vs' := by
  cases hh : cfg.structHeader with
  | true =>
    obtain ⟨body, hbody, hv, hl, rfl⟩ := encClass_header hh h
    obtain ⟨h1, h2⟩ := encItems_rt env cfg ver H d.items vs body vs' [] hbody
    rw [List.append_nil] at h1
    rw [decClass_header D env cfg d hh ver hv body r hl, h1]
    simp [h2]
  | false =>
    have hbody := encClass_noheader hh h
    obtain ⟨h1, h2⟩ := encItems_rt env cfg 0 H d.items vs b vs' r hbody
    unfold decClass
    simp [hh, h1, h2]

theorem encHook_ok {g : Name → List Val → Except Err (Bytes × List Val)} {n : Name} {fs : List Val} {b : Bytes}
    (h : encHook g n fs = .ok b) : g n fs = .ok (b, []) := by
  obtain ⟨b', rest, hg, h⟩ := match_pair_ok h
  obtain ⟨he, rfl⟩ := guard_ok h
  rw [hg, List.isEmpty_iff.mp he]

theorem encGo_rt (env : Env) (cfg : Cfg) :
    ∀ (f : Nat) (leaf : Option (Items × List Val)) (c : Name) (vs : List Val) (b : Bytes) (vs' : List Val) (r : Bytes),
      encGo env cfg f leaf c vs = .ok (b, vs') →
      decObj env cfg f c (b ++ r) = .ok ((visObj env cfg f c vs).1, r) ∧ (visObj env cfg f c vs).2 = vs' := by
  intro f
  induction f with
  | zero => intro leaf c vs b vs' r h; cases h
  | succ f ih =>
    intro leaf c vs b vs' r h
    have H : HookRT (encHook (encGo env cfg f none)) (decObj env cfg f) (visHook (visObj env cfg f)) :=
      fun n fs b r hb => (ih none n fs b [] r (encHook_ok hb)).1
    unfold encGo at h
    cases hd : lookup env c with
    | none => rw [hd] at h; cases h
    | some d =>
      simp only [hd] at h
      cases hp : d.parent with
      | none =>
        simp only [hp] at h
        obtain ⟨cb, vs2, hcb, h⟩ := match_pair_ok h
        cases h
        obtain ⟨h1, h2⟩ := encClass_rt env cfg _ _ d H vs cb vs' r hcb
        simp only [decObj, visObj, hd, hp, List.nil_append, h1, h2, and_self]
      | some p =>
        simp only [hp] at h
        split at h
        · cases h
        · rename_i pb vs1 hpb
          obtain ⟨cb, vs2, hcb, h⟩ := match_pair_ok h
          cases h
          obtain ⟨h0, h0'⟩ := ih _ p vs pb vs1 (cb ++ r) hpb
          obtain ⟨h1, h2⟩ := encClass_rt env cfg _ _ d H vs1 cb vs' r hcb
          simp only [decObj, visObj, hd, hp, List.append_assoc, h0, h0', h1, h2, and_self]

theorem hookRT_fuel (env : Env) (cfg : Cfg) (f : Nat) :
    HookRT (encHook (encObj env cfg f)) (decObj env cfg f) (visHook (visObj env cfg f)) :=
  fun n fs b r hb => (encGo_rt env cfg f none n fs b [] r (encHook_ok hb)).1

theorem encode_decode (env : Env) (cfg : Cfg) (fuel : Nat) (ty : Ty) (v : Val) (b r : Bytes)
    (h : encode env cfg fuel ty v = .ok b) :
    decode env cfg fuel ty (b ++ r) = .ok (visible env cfg fuel ty v, r) :=
  encTy_rt env cfg (hookRT_fuel env cfg fuel) ty v b r h

theorem encArgs_rt (env : Env) (cfg : Cfg) (fuel : Nat) (ps : List (Name × Ty)) :
    ∀ (vs : List Val) (b r : Bytes), encArgs env cfg fuel ps vs = .ok b →
      decArgs env cfg fuel ps (b ++ r) = .ok (visArgs env cfg fuel ps vs, r) := by
  induction ps with
  | nil =>
    intro vs b r h
    cases vs with
    | nil => cases h; rfl
    | cons _ _ => cases h
  | cons p ps ih =>
    intro vs b r h
    obtain ⟨n, ty⟩ := p
    cases vs with
    | nil => cases h
    | cons v vs =>
      obtain ⟨b1, hb1, h⟩ := match_ok h
      obtain ⟨bs, hbs, h⟩ := match_ok h
      cases h
      have h1 := encode_decode env cfg fuel ty v b1 (bs ++ r) hb1
      have h2 := ih vs bs r hbs
      simp only [decArgs, visArgs, List.append_assoc, h1, h2]

/-- the client reads the results back, then looks at what is left (`if not stream.eof(): raise ValueError`) -/
theorem clientResponse_append {env : Env} {cfg : Cfg} {fuel : Nat} {m : MethodDef} {res : List Val} {body : Bytes}
    (h : encArgs env cfg fuel m.response res = .ok body) (x : Bytes) :
    clientResponse env cfg fuel m (body ++ x)
      = if x.isEmpty then .ok (visArgs env cfg fuel m.response res) else .error .value := by
  unfold clientResponse
  rw [encArgs_rt env cfg fuel m.response res body x h]

theorem rmcClientCfg_structHeader (cfg : Cfg) (minor : Nat) :
    (rmcClientCfg cfg minor).structHeader = (cfg.structHeader || decide (minor ≥ 3)) := by
  unfold rmcClientCfg
  split <;> simp [*]

theorem nodupNat_iff (l : List Nat) : nodupNat l = true ↔ l.Nodup := by
  induction l with
  | nil => simp [nodupNat]
  | cons a l ih => simp [nodupNat, ih]

theorem wfProto_ids {env : Env} {p : ProtoDef} (h : wfProto env p = true) :
    nodupNat (p.methods.map (·.id)) = true ∧ nodupNat (p.methods.map (·.name)) = true := by
  simp only [wfProto, Bool.and_eq_true] at h
  exact ⟨h.1.1.1, h.1.1.2⟩

/-- what the translator's kernel-checked obligations establish for a translated definition file:
    unique structure names, parents and structure-typed fields resolving to *earlier* definitions (acyclic),
    unique protocol names, per protocol unique method ids and names, every structure reference of a method
    resolving, `noresponse` protocols without results -/
def WFEnv (env : Env) : Prop := wfStructs env = true ∧ wfProtos env = true

theorem wfProto_methods {env : Env} {p : ProtoDef} (h : wfProto env p = true) {m : MethodDef} (hm : m ∈ p.methods) :
    findMethodById p m.id = some m ∧ findMethod p m.name = some m :=
  ⟨find?_beq_of_nodup_map MethodDef.id ((nodupNat_iff _).mp (wfProto_ids h).1) hm,
   find?_beq_of_nodup_map MethodDef.name ((nodupNat_iff _).mp (wfProto_ids h).2) hm⟩

theorem wfEnv_methods {env : Env} (h : WFEnv env) :
    ∀ p ∈ env.protos, ∀ m ∈ p.methods, findMethodById p m.id = some m ∧ findMethod p m.name = some m := by
  intro p hp m hm
  have hw := h.2
  simp only [wfProtos, Bool.and_eq_true, List.all_eq_true] at hw
  exact wfProto_methods (hw.2 p hp) hm

/-- names of the attributes a `save`/`load` touches, in order -/
def Items.active (nex ver : Nat) : Items → List Name
  | .nil => []
  | .field n _ _ r => n :: r.active nex ver
  | .nex g b r => (if nex ≥ g then b.active nex ver else []) ++ r.active nex ver
  | .rev g b r => (if ver ≥ g then b.active nex ver else []) ++ r.active nex ver

theorem ite_nil_sublist {α : Type} {c1 c2 : Prop} [Decidable c1] [Decidable c2] {l1 l2 : List α} (hc : c1 → c2)
    (hl : l1.Sublist l2) : (if c1 then l1 else []).Sublist (if c2 then l2 else []) := by
  by_cases h1 : c1
  · rw [if_pos h1, if_pos (hc h1)]; exact hl
  · rw [if_neg h1]; exact List.nil_sublist _

/-- `n` and `t` open the same `nex` gates of `it`: `max_version` and `revsBelow` do not tell them apart, so the thresholds the
checker enumerates stand for every `nex.version` -/
def gatesAgree (n t : Nat) (it : Items) : Prop := ∀ g ∈ it.nexGates, (g ≤ n ↔ g ≤ t)

theorem gatesAgree_nex {n t g : Nat} {b r : Items} (h : gatesAgree n t (.nex g b r)) :
    (g ≤ n ↔ g ≤ t) ∧ gatesAgree n t b ∧ gatesAgree n t r := by
  simp only [gatesAgree, Items.nexGates, List.forall_mem_cons, List.forall_mem_append] at h
  exact ⟨h.1, h.2.1, h.2.2⟩

theorem gatesAgree_rev {n t g : Nat} {b r : Items} (h : gatesAgree n t (.rev g b r)) :
    gatesAgree n t b ∧ gatesAgree n t r := by
  simp only [gatesAgree, Items.nexGates, List.forall_mem_append] at h
  exact h

theorem maxVerGo_agree {n t : Nat} : ∀ (it : Items), gatesAgree n t it → ∀ v, maxVerGo n it v = maxVerGo t it v := by
  intro it
  induction it with
  | nil => intro _ v; rfl
  | field a ty d r ih => exact ih
  | rev g b r ihb ihr => exact fun h _ => ihr (gatesAgree_rev h).2 g
  | nex g b r ihb ihr =>
    intro h v
    obtain ⟨hg, hb, hr⟩ := gatesAgree_nex h
    simp only [maxVerGo, ge_iff_le, hg, ihb hb v, ihr hr]

theorem revsBelow_agree {n t : Nat} (m : Nat) : ∀ (it : Items), gatesAgree n t it → revsBelow m n it = revsBelow m t it := by
  intro it
  induction it with
  | nil => intro _; rfl
  | field a ty d r ih => exact ih
  | rev g b r ihb ihr =>
    intro h
    simp only [revsBelow]
    rw [ihb (gatesAgree_rev h).1, ihr (gatesAgree_rev h).2]
  | nex g b r ihb ihr =>
    intro h
    obtain ⟨hg, hb, hr⟩ := gatesAgree_nex h
    simp only [revsBelow, ge_iff_le, hg, ihb hb, ihr hr]

/-- every `nex.version` behaves like one of the thresholds `0, g₁, g₂, …`: the largest one that is `≤ n` -/
theorem exists_threshold (n : Nat) (gs : List Nat) : ∃ t, t ∈ 0 :: gs ∧ t ≤ n ∧ ∀ g ∈ gs, (g ≤ n ↔ g ≤ t) := by
  induction gs with
  | nil => exact ⟨0, List.mem_cons_self, Nat.zero_le _, fun _ h => nomatch h⟩
  | cons g gs ih =>
    obtain ⟨t, ht, htn, hall⟩ := ih
    by_cases hg : g ≤ n ∧ t < g
    · refine ⟨g, List.mem_cons_of_mem _ List.mem_cons_self, hg.1, List.forall_mem_cons.mpr ⟨by omega, fun g' h => ?_⟩⟩
      have := hall g' h
      omega
    · refine ⟨t, ?_, htn, List.forall_mem_cons.mpr ⟨by omega, hall⟩⟩
      exact (List.mem_cons.mp ht).elim (fun e => e ▸ List.mem_cons_self)
        (fun h => List.mem_cons_of_mem _ (List.mem_cons_of_mem _ h))

theorem revAscending_sound {it : Items} (h : it.revAscending = true) (n : Nat) :
    revsBelow (maxVersion n it) n it = true ∧ maxVersion n it < 256 := by
  obtain ⟨t, ht, _, hall⟩ := exists_threshold n it.nexGates
  have hag : gatesAgree n t it := hall
  simp only [Items.revAscending, List.all_eq_true, Bool.and_eq_true, decide_eq_true_eq] at h
  rw [show maxVersion n it = maxVersion t it from maxVerGo_agree it hag 0, revsBelow_agree _ it hag]
  exact h t ht

theorem revsBelow_of_noRev (m n : Nat) : ∀ it : Items, it.hasRev = false → revsBelow m n it = true := by
  intro it
  induction it with
  | nil => intro _; rfl
  | field a ty d r ih => intro h; exact ih (by simpa [Items.hasRev] using h)
  | rev g b r ihb ihr => intro h; simp [Items.hasRev] at h
  | nex g b r ihb ihr =>
    intro h
    simp only [Items.hasRev, Bool.or_eq_false_iff] at h
    simp only [revsBelow, ihb h.1, ihr h.2]
    simp

theorem decItems_ver (D : DecHook) (env : Env) (cfg : Cfg) {m v' : Nat} (hv : m ≤ v') :
    ∀ (it : Items) (b : Bytes), revsBelow m cfg.nexVersion it = true →
      decItems D env cfg v' it b = decItems D env cfg m it b := by
  intro it
  induction it with
  | nil => intro b _; rfl
  -- the induction hypotheses rewrite under the decoder's `match`es
  | field a ty d r ih =>
    intro b h
    simp only [decItems, fun b => ih b h]
  | nex g body r ihb ihr =>
    intro b h
    simp only [revsBelow, Bool.and_eq_true] at h
    by_cases hg : cfg.nexVersion ≥ g
    · rw [if_pos hg] at h
      simp only [decItems, if_pos hg, fun b => ihb b h.1, fun b => ihr b h.2]
    · simp only [decItems, if_neg hg, ihr b h.2]
  | rev g body r ihb ihr =>
    intro b h
    simp only [revsBelow, Bool.and_eq_true, decide_eq_true_eq] at h
    simp only [decItems, if_pos h.1.1, if_pos (Nat.le_trans h.1.1 hv), fun b => ihb b h.1.2, fun b => ihr b h.2]

theorem effMaxVersion_root {env : Env} {c : Name} {d : StructDef} (hl : lookup env c = some d) (hp : d.parent = none)
    (nex f : Nat) :
    effMaxVersion env nex (f + 1) c = if d.items.hasRev then maxVersion nex d.items else 0 := by
  simp only [effMaxVersion, hl, hp]

/-! ## a small environment for non-vacuity examples (shapes taken from the repository's definitions) -/
namespace Ex

/-- `struct Gathering { uint32 id; nex 30500 { string descr = ""; } }` -/
def gathering : StructDef :=
  { name := 71, parent := none, items := .field 1 (.uint .b4) false (.nex 30500 (.field 2 .string true .nil) .nil) }

/-- the shape of `MatchmakeSession : Gathering`: revisions 1 then 0 behind nex gates -/
def session : StructDef :=
  { name := 77, parent := some 71,
    items := .field 3 (.list (.uint .b1)) false
      (.nex 30600 (.rev 1 (.field 4 .datetime true .nil) .nil)
      (.nex 40000 (.rev 0 (.field 5 .string true .nil) .nil) .nil)) }

/-- the shape of `RVConnectionData`: `nex 30500 { revision 1 { datetime t } }` -/
def conn : StructDef :=
  { name := 82, parent := none,
    items := .field 6 .stationurl true (.nex 30500 (.rev 1 (.field 7 .datetime true .nil) .nil) .nil) }

def meth : MethodDef :=
  { id := 1, name := 90, supported := true,
    request := [(1, .struct 77), (2, .pid)], response := [(3, .anydata), (4, .bool)] }

def proto : ProtoDef :=
  { name := 80, id := 21, noresponse := false,
    methods := [meth, { id := 2, name := 91, supported := false, request := [], response := [] }] }

def env : Env := { structs := builtins ++ [gathering, session, conn], protos := [proto] }

def cfgOld : Cfg := { nexVersion := 30499, structHeader := false, pidSize := 4 }
def cfgNew : Cfg := { nexVersion := 40000, structHeader := true, pidSize := 8 }
def cfg36 : Cfg := { nexVersion := 30600, structHeader := true, pidSize := 8 }

def sessionVal : Val := .obj 77 [.int 7, .str [0x41], .list [.int 1, .int 255], .int 99, .str [0x42]]

end Ex

end Nx.Schema
