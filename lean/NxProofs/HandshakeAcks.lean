import NxProofs.HandshakeClient
import NxProofs.Gating
/-!
# C01 — which acknowledgements a client waits for during its handshake

`AckInv c`: every acknowledgement the client waits for is that of ITS SYN (key (SYN, 0, 0)) or of a CONNECT. Sending a SYN or a
CONNECT and handling SYN / CONNECT packets keep it; once a SYN/ACK has been accepted the SYN's entry is gone for good — so every
later SYN packet is inert (`late_syn_inert`) and the CONNECT is sent exactly once, whatever SYN and CONNECT packets the client is
handed, in whatever order and number (`client_half_any_packets`).
-/
namespace Nx.L1
open Nx.Prudp

def keyOK (k : AckKey) : Prop := k = (TYPE_SYN, 0, 0) ∨ k.1 = TYPE_CONNECT

def AckInv (c : Conn) : Prop := ∀ e ∈ c.ackEvents, keyOK e.1

theorem transmit_ackInv (env : Env) (now : Time) (c : Conn) (q : Packet) (h : AckInv c) (hk : keyOK (ackKeyOf q)) :
    AckInv (c.transmit env now q).c := by
  rcases transmit_cases env now c q with ⟨_, e⟩ | ⟨_, e⟩ | ⟨_, e⟩ <;> rw [e]
  · exact h
  · exact h
  · split
    · -- the timer that is armed waits under the key of `q`
      unfold Conn.arm
      cases c.sched with
      | none => exact h
      | some s => exact fun e he => (mem_ackSet _ _ _ e he).elim (fun h1 => h1 ▸ hk) (h e)
    · exact h

theorem sendConnect_ackInv (env : Env) (now : Time) (c : Conn) (h : AckInv c) : AckInv (c.sendConnect env now).c := by
  obtain ⟨q, hq, e⟩ := sendConnect_eq env now c
  rw [e]
  split
  · exact h
  · exact transmit_ackInv env now _ (q _) h (Or.inr (hq _))

theorem handle_syn_ackInv (env : Env) (now : Time) (c : Conn) (p : Packet) (h : AckInv c) (hp : p.type = TYPE_SYN)
    (hst : c.state = STATE_CONNECTING) :
    AckInv (c.handle env now p).c ∧
    ((c.handle env now p).err = none → (c.handle env now p).c.state = STATE_CONNECTED →
      ∀ e ∈ (c.handle env now p).c.ackEvents, e.1.1 ≠ TYPE_SYN) := by
  rw [handle_syn env now c p hp (by rw [hst]; decide)]
  by_cases hv : c.synValid env p
  · rw [Conn.processSyn_valid env now c p hv]
    cases hl : ackLookup (ackKeyOf p) c.ackEvents with
    | none =>
      rw [if_neg (by simp : ¬ (none : Option Nat).isSome = true), R.ok_bind, acked_of_none c p hl]
      exact ⟨h, fun _ hcon => absurd (hst.symm.trans hcon) (by decide)⟩
    | some t =>
      rw [if_pos Option.isSome_some, R.bind_ok_map]
      have ha := sendConnect_ackInv env now (c.adopt p) h
      refine ⟨?_, fun herr _ e he hsyn => ?_⟩
      · split
        · exact fun e he => ha e (acked_sub _ p e he)
        · exact ha
      · rw [if_pos herr] at he
        -- a valid SYN/ACK carries the key of the client's own SYN, the only SYN key `AckInv` allows
        rcases ha e (acked_sub _ p e he) with hk | hk
        · obtain ⟨-, hack, ⟨-, hpid, -, hsub⟩, -⟩ := hv
          refine acked_clears _ p hack e he (hk.trans ?_)
          rw [ackKeyOf, hp, hsub, hpid]
        · rw [hsyn] at hk; exact absurd hk (by decide)
  · rw [Conn.processSyn_invalid env now c p hv]
    exact ⟨h, fun herr => by cases herr⟩

theorem handle_connect_acks_sub (env : Env) (now : Time) (c : Conn) (p : Packet) (hp : p.type = TYPE_CONNECT) :
    ∀ e ∈ (c.handle env now p).c.ackEvents, e ∈ c.ackEvents := by
  rcases handle_connect env now c p hp with hh | hh
  · rw [hh.1]; exact fun e he => he
  have hpc : (c.processConnect env p).c.ackEvents = c.ackEvents := by
    by_cases hv : c.connectValid env p
    · rw [Conn.processConnect_valid env c p hv]
      split
      · split <;> rfl
      · rfl
    · rw [Conn.processConnect_invalid env c p hv]; rfl
  rw [hh, R.bind_ok_map, ← hpc]
  split
  · exact acked_sub _ p
  · exact fun e he => he

/-- a packet of the handshake, as the client's `handle` is handed them -/
structure HsPkt where
  now : Time
  p : Packet
  ok : p.type = TYPE_SYN ∨ p.type = TYPE_CONNECT

/-- the client is handed a sequence of SYN / CONNECT packets; `none` if the step that made it CONNECTED raised (the CONNECT could
    not be sent: a field out of range for the encoding) -/
def clientRun (env : Env) : Conn → List HsPkt → Option Conn
  | c, [] => some c
  | c, x :: xs =>
    let r := c.handle env x.now x.p
    if c.state = STATE_CONNECTING ∧ r.c.state = STATE_CONNECTED ∧ r.err ≠ none then none
    else clientRun env r.c xs

/-- the invariant of the client between `handshake()` and its return -/
structure HsInv (c : Conn) (n : Nat) (ks : List Bytes) (on : Bool) : Prop where
  fresh : HsFresh c n ks on
  acks : AckInv c
  phase : (c.state = STATE_CONNECTING ∧ c.counters = List.replicate n 1) ∨
          (c.state = STATE_CONNECTED ∧ c.counters = setAt (List.replicate n 1) 0 2 ∧ ∀ e ∈ c.ackEvents, e.1.1 ≠ TYPE_SYN)

theorem hsInv_step (env : Env) (n : Nat) (hn : 0 < n) {ks : List Bytes} {on : Bool} (c : Conn) (x : HsPkt) (h : HsInv c n ks on)
    (hgo : ¬ (c.state = STATE_CONNECTING ∧ (c.handle env x.now x.p).c.state = STATE_CONNECTED ∧ (c.handle env x.now x.p).err ≠ none)) :
    HsInv (c.handle env x.now x.p).c n ks on := by
  rcases x.ok with hsyn | hcon
  · rcases h.phase with ⟨hst, hc⟩ | ⟨hst, hc, hno⟩
    · obtain ⟨f2, e2⟩ := handle_syn_hs env x.now c n x.p h.fresh hsyn hst
      obtain ⟨a2, n2⟩ := handle_syn_ackInv env x.now c x.p h.acks hsyn hst
      refine ⟨f2, a2, ?_⟩
      rcases e2 with ⟨s2, k2⟩ | ⟨s2, k2⟩
      · exact Or.inl ⟨s2, k2.trans hc⟩
      · have herr : (c.handle env x.now x.p).err = none := Decidable.byContradiction fun he => hgo ⟨hst, s2, he⟩
        refine Or.inr ⟨s2, ?_, n2 herr s2⟩
        have := k2 1 (by rw [hc]; exact List.getElem?_replicate_of_lt hn)
        rw [this, hc]; rfl
    · rw [late_syn_inert env x.now c x.p hsyn hst hno]; exact h
  · obtain ⟨f2, s2, k2⟩ := handle_connect_hs env x.now c n x.p h.fresh hcon
    have hsub := handle_connect_acks_sub env x.now c x.p hcon
    refine ⟨f2, fun e he => h.acks e (hsub e he), ?_⟩
    rcases h.phase with ⟨hst, hc⟩ | ⟨hst, hc, hno⟩
    · exact Or.inl ⟨s2.trans hst, k2.trans hc⟩
    · exact Or.inr ⟨s2.trans hst, k2.trans hc, fun e he => hno e (hsub e he)⟩

theorem hsInv_run (env : Env) (n : Nat) (hn : 0 < n) {ks : List Bytes} {on : Bool} : ∀ (xs : List HsPkt) (c c' : Conn),
    HsInv c n ks on → clientRun env c xs = some c' → HsInv c' n ks on := by
  intro xs
  induction xs with
  | nil => intro c c' h hr; cases hr; exact h
  | cons x xs ih =>
    intro c c' h hr
    unfold clientRun at hr
    simp only [] at hr
    split at hr
    · cases hr
    · rename_i hgo
      exact ih _ _ (hsInv_step env n hn c x h hgo) hr

theorem hsInv_start (env : Env) (version : Option Nat) (u chk sid : Nat) (la : Addr) (lp lt : Nat) (ra : Addr) (rp rt : Nat)
    (t0 : Time) (creds : Option Creds) :
    HsInv ((Conn.new env version u chk sid la lp lt ra rp rt).handshake env t0 creds).c (env.s.maxSubstreamId + 1)
      (clientKeys env creds) (env.s.transport == TRANSPORT_UDP) := by
  obtain ⟨f1, s1, k1⟩ := handshake_start_hs env version u chk sid la lp lt ra rp rt t0 creds
  refine ⟨f1, ?_, Or.inl ⟨s1, k1⟩⟩
  unfold Conn.handshake
  obtain ⟨q, hq, e⟩ := sendSyn_eq env t0 _
  rw [e]
  refine transmit_ackInv env t0 _ q (fun e he => ?_) (Or.inl hq)
  cases creds <;> simp [Conn.login, Conn.new] at he

/-- **the client's half, for ANY handshake packets**: after `handshake()` the client is handed any sequence of SYN and CONNECT packets
    — genuine, duplicated, reordered, late, crafted with any parameters and signatures, in any number — and then `handshake()`
    resumes. Unless sending the CONNECT itself raised, a client that ends up CONNECTED is `ClientReady` on every substream the
    settings allow, with the keys and the cipher setting it started with: the CONNECT went out exactly once, nothing of the
    receiver role or the ciphers was touched. -/
theorem client_half_any_packets (env : Env) (version : Option Nat) (u chk sid : Nat) (la : Addr) (lp lt : Nat) (ra : Addr) (rp rt : Nat)
    (t0 t3 : Time) (creds : Option Creds) (xs : List HsPkt) (c' : Conn)
    (hr : clientRun env ((Conn.new env version u chk sid la lp lt ra rp rt).handshake env t0 creds).c xs = some c')
    (sub : Nat) (hsub : sub ≤ env.s.maxSubstreamId) (hconn : (c'.resumeHandshake t3).c.state = STATE_CONNECTED) :
    ClientReady (c'.resumeHandshake t3).c sub ∧
    (c'.resumeHandshake t3).c.relCiphers = (clientKeys env creds).map (fun k => { key := k }) ∧
    (c'.resumeHandshake t3).c.cipherOn = (env.s.transport == TRANSPORT_UDP) := by
  have h0 := hsInv_start env version u chk sid la lp lt ra rp rt t0 creds
  have h1 := hsInv_run env _ (by omega) xs _ c' h0 hr
  obtain ⟨f4, s4, k4⟩ := resume_hs t3 c' _ h1.fresh
  have hst : c'.state = STATE_CONNECTED := by rw [← s4]; exact hconn
  rcases h1.phase with ⟨hc, _⟩ | ⟨_, hk, _⟩
  · rw [hst] at hc; exact absurd hc (by decide)
  · exact ⟨clientReady_of_fresh f4 (k4.trans hk) sub (by omega), f4.keys.2, f4.con⟩

end Nx.L1
