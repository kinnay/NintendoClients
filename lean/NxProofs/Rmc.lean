import NxModel.Nex.Rmc
import NxProofs.Bytes
import NxProofs.Bits
/-! RMC framing (C09): `decode_frame` reads the length prefix and the protocol prefix of a reference frame once; each of the
three message forms is then `decodeBody` computed on its own tail (`decode_specEncode`), and `encode` of the library's
message objects is the reference framing (`encode_ofSpec`). -/
namespace Nx.Rmc

theorem specProto_length (r : Bool) (p : Nat) : (specProto r p).length = if p ≥ 127 then 3 else 1 := by
  unfold specProto; by_cases h : p ≥ 127 <;> cases r <;> simp [h]

theorem specProto_length_le (r : Bool) (p : Nat) : (specProto r p).length ≤ 3 := by
  rw [specProto_length]; split <;> omega

/-- `decode` from the point where mode bit and protocol id are known; `decode_frame` is the connection, so that each
    form of message is read back by computing this on its own tail only -/
def decodeBody (isReq : Bool) (protocol : Nat) (s : Bytes) : Except Err Msg :=
  if isReq then do
    let (callId, s) ← rdU32 s
    let (meth, s) ← rdU32 s
    pure { mode := 0, protocol, method := some meth, callId, error := -1, body := s }
  else do
    let (ok, s) ← rdU8 s
    if ok ≠ 0 then
      let (callId, s) ← rdU32 s
      let (meth, s) ← rdU32 s
      let meth' := if (meth / 32768) % 2 = 1 then meth - 32768 else meth
      pure { mode := 1, protocol, method := some meth', callId, error := -1, body := s }
    else
      let (err, s) ← rdU32 s
      let (callId, s) ← rdU32 s
      if !s.isEmpty then throw .value
      pure { mode := 1, protocol, method := none, callId, error := (err : Int), body := [] }

theorem rd_specProto (isReq : Bool) (p : Nat) (hp : p < 65536) (r : Bytes) :
    ∃ b : Nat, rdU8 (specProto isReq p ++ r) = .ok (b, if p ≥ 127 then u16le p ++ r else r)
      ∧ (b ≥ 128 ↔ isReq = true) ∧ (b % 128 = 0x7F ↔ p ≥ 127) ∧ (p < 127 → b % 128 = p) := by
  unfold specProto
  by_cases h : p ≥ 127 <;> cases isReq <;> simp [h, rdU8] <;> omega

theorem decode_frame (isReq : Bool) (p : Nat) (hp : p < 65536) (rest : Bytes) (hl : rest.length + 3 < 4294967296) :
    decode (specFrame (specProto isReq p ++ rest)) = decodeBody isReq p rest := by
  have hlen := specProto_length_le isReq p
  unfold decode specFrame
  rw [rdU32_u32le _ _ (by simp; omega), ok_bind]
  obtain ⟨x, hx, hreq, h7f, hlt⟩ := rd_specProto isReq p hp rest
  dsimp only
  rw [if_neg (by simp), hx, ok_bind]
  simp only [propext hreq]
  by_cases h : p ≥ 127
  · rw [if_pos (h7f.mpr h), if_pos h, rdU16_u16le _ _ hp]; rfl
  · rw [hlt (by omega), if_neg (by omega), if_neg h]; rfl

theorem decodeBody_failure (p c e : Nat) (hc : c < 4294967296) (he : e < 4294967296) (extra : Bytes) :
    decodeBody false p ([0] ++ (u32le e ++ (u32le c ++ extra)))
      = if extra = [] then .ok (ofSpec (.failure p c e)) else .error .value := by
  simp only [decodeBody, Bool.false_eq_true, if_false, List.singleton_append, rdU8, ok_bind, rdU32_u32le _ _ he,
    rdU32_u32le _ _ hc]
  cases extra <;> rfl

theorem decode_specEncode (s : Spec) (h : s.WF) : decode (specEncode s) = .ok (ofSpec s) := by
  cases s with
  | request p c m b =>
    obtain ⟨hp, hc, hm, hb⟩ := h
    simp only [specEncode, List.append_assoc]
    rw [decode_frame _ _ hp _ (by simp; omega)]
    simp only [decodeBody, if_true, rdU32_u32le _ _ hc, rdU32_u32le _ _ hm, ok_bind]
    rfl
  | success p c m b =>
    obtain ⟨hp, hc, hm, hb⟩ := h
    simp only [specEncode, List.append_assoc]
    rw [decode_frame _ _ hp _ (by simp; omega)]
    simp only [decodeBody, Bool.false_eq_true, if_false, List.singleton_append, rdU8, ok_bind, rdU32_u32le _ _ hc,
      rdU32_u32le (m + 32768) _ (by omega)]
    rw [if_pos (by decide), if_pos (by omega), Nat.add_sub_cancel]
    rfl
  | failure p c e =>
    obtain ⟨hp, hc, he1, he2⟩ := h
    simp only [specEncode, List.append_assoc]
    rw [decode_frame _ _ hp _ (by simp), ← List.append_nil (u32le c), decodeBody_failure p c e hc he2, if_pos rfl]

theorem encProtocol_eq (isReq : Bool) (p : Nat) (hp : p < 65536) :
    encProtocol p (if isReq then 0x80 else 0) = .ok (specProto isReq p) := by
  unfold encProtocol specProto
  by_cases h : p < 127
  · have h' : ¬ p ≥ 127 := by omega
    cases isReq
    · simp [h, h', u8]
    · have : p ||| 128 = 128 + p := by
        have := Nat.or_two_pow_eq_add_of_lt (a := p) (n := 7) (by omega); simpa [Nat.add_comm] using this
      simp [h, h', u8, this]
  · have h' : p ≥ 127 := by omega
    cases isReq <;> simp [h, h', hp, u8]

theorem encProtocol_req (p : Nat) (hp : p < 65536) : encProtocol p 0x80 = .ok (specProto true p) := by
  simpa using encProtocol_eq true p hp

theorem encProtocol_resp (p : Nat) (hp : p < 65536) : encProtocol p 0 = .ok (specProto false p) := by
  simpa using encProtocol_eq false p hp

theorem hasErrorBit_of_nat (e : Nat) (h1 : 2147483648 ≤ e) (h2 : e < 4294967296) : hasErrorBit (e : Int) = true := by
  unfold hasErrorBit
  have : (e : Int) ≠ -1 := by omega
  simp [this]
  omega

/-- the error form of `RMCMessage.encode` looks neither at the `method` nor at the `body` field -/
theorem encode_failure (p c e : Nat) (mm : Option Nat) (bb : Bytes) (hp : p < 65536) (hc : c < 4294967296)
    (he1 : 2147483648 ≤ e) (he2 : e < 4294967296) :
    encode { mode := 1, protocol := p, method := mm, callId := c, error := (e : Int), body := bb }
      = .ok (specEncode (.failure p c e)) := by
  have hlen := specProto_length_le false p
  simp only [encode, show ¬ ((1 : Nat) = 0) by omega, if_false, encProtocol_resp p hp, bind, Except.bind, pure, Except.pure,
    specEncode, specFrame, List.append_assoc, hasErrorBit_of_nat e he1 he2]
  rw [if_pos trivial, if_pos ⟨by omega, by omega, hc⟩, if_pos (by simp <;> omega)]
  simp [u8, b8]

theorem encode_ofSpec (s : Spec) (h : s.WF) : encode (ofSpec s) = .ok (specEncode s) := by
  cases s with
  | request p c m b =>
    obtain ⟨hp, hc, hm, hb⟩ := h
    have hlen := specProto_length_le true p
    simp only [encode, ofSpec, if_true, encProtocol_req p hp, bind, Except.bind, hc, hm, and_self, pure, Except.pure,
      specEncode, specFrame, List.append_assoc]
    rw [if_pos (by simp <;> omega)]
  | success p c m b =>
    obtain ⟨hp, hc, hm, hb⟩ := h
    have hlen := specProto_length_le false p
    have hor : m ||| 32768 = m + 32768 := Nat.or_two_pow_eq_add_of_lt (a := m) (n := 15) (by omega)
    simp only [encode, ofSpec, show ¬ ((1 : Nat) = 0) by omega, if_false, encProtocol_resp p hp, bind, Except.bind, pure,
      Except.pure, specEncode, specFrame, List.append_assoc, hasErrorBit, hor]
    rw [if_neg (by simp), if_pos hc, if_pos (by omega), if_pos (by simp <;> omega)]
    rfl
  | failure p c e =>
    obtain ⟨hp, hc, he1, he2⟩ := h
    exact encode_failure p c e none [] hp hc he1 he2

theorem decode_prefix_mismatch {d s : Bytes} {l : Nat} (h : rdU32 d = .ok (l, s)) (hne : l ≠ s.length) :
    decode d = .error .value := by
  have hl := rdU32_len h
  unfold decode
  rw [h, ok_bind]
  simp only []
  rw [if_pos (by omega)]
  rfl

theorem specEncode_frame (s : Spec) (h : s.WF) :
    ∃ payload, specEncode s = specFrame payload ∧ payload.length < 4294967296 := by
  cases s with
  | request p c m b => have := specProto_length_le true p; have := h.2.2.2; exact ⟨_, rfl, by simp; omega⟩
  | success p c m b => have := specProto_length_le false p; have := h.2.2.2; exact ⟨_, rfl, by simp; omega⟩
  | failure p c e => have := specProto_length_le false p; exact ⟨_, rfl, by simp; omega⟩

theorem decode_take_frame (payload : Bytes) (hn : payload.length < 4294967296) (k : Nat)
    (hk : k < (specFrame payload).length) : ∃ e, decode ((specFrame payload).take k) = .error e := by
  unfold specFrame at *
  by_cases h4 : k < 4
  · refine ⟨.overflow, ?_⟩
    unfold decode
    rw [rdU32_short (by simp; omega)]
    rfl
  · refine ⟨.value, ?_⟩
    have : (u32le payload.length ++ payload).take k = u32le payload.length ++ payload.take (k - 4) := by
      rw [List.take_append]; simp
      rw [List.take_of_length_le (by simp; omega)]
    rw [this]
    apply decode_prefix_mismatch (rdU32_u32le _ _ hn)
    simp at hk ⊢
    omega

end Nx.Rmc
