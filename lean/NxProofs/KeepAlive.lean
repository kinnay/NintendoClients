import NxProofs.Silence
/-! C02: the keep-alive timer armed by `serve` / `resumeHandshake` survives everything except `cleanup` — whatever is
received, sent or fired — so at every instant of an established connection a keep-alive is due within `ping_timeout`.
With `silence_bound` this gives the property's bound counted from ANY instant after which nothing is heard.

Both invariants (`Conn.KA`: dead, or a protected keep-alive is pending; `AWF`: the acknowledgement table holds handles the scheduler
handed out) are kept by every elementary update, hence by every operation (`Steps.inv`). -/
namespace Nx.L1
open Nx.Prudp

/-- a timer that nothing but `cleanup` can remove: no acknowledgement entry points at its handle, and its handle is below
    the scheduler's next handle (so no later entry will) -/
def Wit (c : Conn) (t : Timer) : Prop :=
  t ∈ evs c ∧ (∀ e ∈ c.ackEvents, e.2 ≠ t.handle) ∧ (∀ s, c.sched = some s → t.handle < s.nextHandle)

/-- every handle stored in the acknowledgement table was handed out by the scheduler -/
def AWF (c : Conn) : Prop := ∀ s, c.sched = some s → ∀ e ∈ c.ackEvents, e.2 < s.nextHandle

theorem Wit.arm {c : Conn} {t : Timer} (now : Time) (p : Packet) (k : Nat) (h : Wit c t) : Wit (c.arm now p k) t := by
  unfold Conn.arm
  cases hs : c.sched with
  | none => exact h
  | some s =>
    obtain ⟨h1, h2, h3⟩ := h
    have hlt := h3 s hs
    refine ⟨?_, fun e he => ?_, fun s' hs' => ?_⟩
    · exact List.mem_append_left _ (evs_some hs ▸ h1)
    · rcases mem_ackSet _ _ _ e he with rfl | he
      · exact Nat.ne_of_gt hlt
      · exact h2 e he
    · cases hs'; exact Nat.lt_succ_of_lt hlt

theorem AWF.arm {c : Conn} (now : Time) (p : Packet) (k : Nat) (h : AWF c) : AWF (c.arm now p k) := by
  unfold Conn.arm
  cases hs : c.sched with
  | none => exact h
  | some s =>
    intro s' hs' e he
    cases hs'
    rcases mem_ackSet _ _ _ e he with rfl | he
    · exact Nat.lt_succ_self _
    · exact Nat.lt_succ_of_lt (h s hs e he)

theorem Wit.cancel {c : Conn} {t : Timer} {acks : List (AckKey × Nat)} {gone : List Nat} (ha : ∀ e ∈ acks, e ∈ c.ackEvents)
    (hg : ∀ g ∈ gone, ∃ e ∈ c.ackEvents, e.2 = g) (h : Wit c t) :
    Wit { c with ackEvents := acks, sched := c.sched.map (gone.foldl Sched.remove) } t := by
  obtain ⟨h1, h2, h3⟩ := h
  have hn : t.handle ∉ gone := fun hin => by obtain ⟨e, he, heq⟩ := hg _ hin; exact h2 e he heq
  refine ⟨(mem_evs_cancel c acks gone t).mpr ⟨h1, hn⟩, fun e he => h2 e (ha e he), fun s' hs' => ?_⟩
  obtain ⟨s, hs, rfl⟩ := Option.map_eq_some_iff.mp hs'
  rw [foldl_remove_nextHandle]; exact h3 s hs

theorem AWF.cancel {c : Conn} {acks : List (AckKey × Nat)} {gone : List Nat} (ha : ∀ e ∈ acks, e ∈ c.ackEvents) (h : AWF c) :
    AWF { c with ackEvents := acks, sched := c.sched.map (gone.foldl Sched.remove) } := by
  intro s' hs' e he
  cases hs : c.sched with
  | none => rw [hs] at hs'; cases hs'
  | some s => rw [hs] at hs'; cases hs'; rw [foldl_remove_nextHandle]; exact h s hs e (ha e he)

theorem Wit.upd (u : Upd) (c : Conn) {t : Timer} (h : Wit c t) : (u.run c).Dead ∨ Wit (u.run c) t := by
  rcases u.run_timers c with ⟨hs, ha⟩ | rfl | ⟨now, p, k, rfl⟩ | hc
  · right; unfold Wit; rw [evs_of_sched hs, ha, hs]; exact h
  · exact Or.inl (cleanup_dead c)
  · exact Or.inr (h.arm now p k)
  · obtain ⟨acks, gone, h1, h2, e⟩ := u.cancel_eq c hc
    rw [e]; exact Or.inr (h.cancel h1 h2)

theorem AWF.upd (u : Upd) (c : Conn) (h : AWF c) : AWF (u.run c) := by
  rcases u.run_timers c with ⟨hs, ha⟩ | rfl | ⟨now, p, k, rfl⟩ | hc
  · unfold AWF; rw [hs, ha]; exact h
  · intro s' hs' e he
    obtain ⟨s, hs, rfl⟩ := Option.map_eq_some_iff.mp (show c.sched.map Sched.removeAll = some s' from hs')
    exact h s hs e he
  · exact h.arm now p k
  · obtain ⟨acks, gone, h1, _, e⟩ := u.cancel_eq c hc
    rw [e]; exact h.cancel h1

/-- dead, or a protected keep-alive timer is due by `P` -/
def Conn.KA (c : Conn) (P : Nat) : Prop :=
  c.Dead ∨ ∃ t, Wit c t ∧ t.act = .ping ∧ t.rep = some c.pingTimeout ∧ t.deadline ≤ P

theorem Conn.KA.upd {P : Nat} (u : Upd) (c : Conn) (h : c.KA P) : (u.run c).KA P := by
  rcases h with d | ⟨t, hw, ha, hr, hd⟩
  · exact Or.inl (Conn.Dead.upd u c d)
  · exact (hw.upd u c).imp_right fun hw' => ⟨t, hw', ha, by rw [(u.run_fixed c).pt]; exact hr, hd⟩

theorem Conn.KA.steps {F : Loc → Prop} {c c' : Conn} {P : Nat} (h : Steps F c c') : c.KA P → c'.KA P := h.inv fun u c _ => Conn.KA.upd u c

theorem AWF.steps {F : Loc → Prop} {c c' : Conn} (h : Steps F c c') : AWF c → AWF c' := h.inv fun u c _ => AWF.upd u c

theorem Conn.KA.mono {c : Conn} {P P' : Nat} (h : c.KA P) (hP : P ≤ P') : c.KA P' :=
  h.imp_right fun ⟨t, hw, ha, hr, hd⟩ => ⟨t, hw, ha, hr, Nat.le_trans hd hP⟩

theorem ka_round (env : Env) (c : Conn) (s : Sched) (d P : Nat) (hs : c.sched = some s) (hP : d + c.pingTimeout ≤ P) (h : c.KA P) :
    (c.round env s d).KA P := by
  refine Conn.KA.steps (round_steps env c s d) (h.imp_right fun ⟨t, ⟨h1, h2, h3⟩, ha, hr, hd⟩ => ?_)
  rw [evs_some hs] at h1
  -- a timer of the round's wheel with the handle of `t` is protected as `t` was
  have hw : ∀ t' : Timer, t'.handle = t.handle → t' ∈ (s.takeDue d).1.events →
      Wit ({ c with sched := some (s.takeDue d).1 } : Conn) t' :=
    fun t' e hm => ⟨hm, by rw [e]; exact h2, fun s' hs' => by cases hs'; rw [e]; exact h3 s hs⟩
  by_cases hdue : t.deadline ≤ d
  · exact ⟨{ t with deadline := t.deadline + c.pingTimeout }, hw _ rfl ((mem_takeDue s d _).mpr (Or.inr ⟨t, h1, hdue, _, hr, rfl⟩)),
      ha, hr, Nat.le_trans (Nat.add_le_add_right hdue _) hP⟩
  · exact ⟨t, hw t rfl ((mem_takeDue s d t).mpr (Or.inl ⟨h1, Nat.lt_of_not_le hdue⟩)), ha, hr, hd⟩

theorem advance_pt (env : Env) (T : Nat) : ∀ (fuel : Nat) (c : Conn), (Conn.advance env fuel T c).1.pingTimeout = c.pingTimeout :=
  fun fuel c => advance_invariant env T (·.pingTimeout = c.pingTimeout)
    (fun x s d _ _ _ h => (round_steps env x s d).fixed.pt.trans h) fuel c rfl

theorem ka_doomed (c : Conn) (P : Nat) (h : c.KA P) : c.Doomed (P + (c.resendLimit + 1) * c.resendTimeout) := by
  cases h with
  | inl d => exact Or.inl d
  | inr w =>
    obtain ⟨t, hw, ha, _, hd⟩ := w
    refine Or.inr ⟨t, hw.1, ?_⟩
    unfold tbound; rw [ha]
    exact Nat.add_le_add_right hd _

theorem resumeHandshake_connected (c : Conn) (now : Time) (s : Sched) (h1 : c.waitingHandshake = true) (h2 : c.handshakeEvent = true)
    (h3 : c.state = STATE_CONNECTED) (hs : c.sched = some s) :
    c.resumeHandshake now = R.ok { c with waitingHandshake := false, sched := some (s.repeat now c.pingTimeout .ping).1,
                                          pingEvent := some s.nextHandle } [Out.handshake true] := by
  unfold Conn.resumeHandshake
  rw [if_pos ⟨h1, h2⟩, if_pos h3, hs]
  rfl

end Nx.L1
