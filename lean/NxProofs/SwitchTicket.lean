import NxModel.Switch.Clients
import NxProofs.Bytes
/-!
# C18: `AAuthClient.verify_ticket` byte by byte

`ticketOk` (NxModel/Switch/Clients.lean) mirrors the code: a length test and three integer comparisons
(`struct.unpack_from`).  Here the same predicate is characterised by the individual bytes it covers (`ticketOk_iff_bytes`),
and against an accepted ticket (`ticketOk_iff_of_accepted`): the same fixed bytes, and its own revision byte repeated at
the end of the rights id. The mutation theorems of `NxProps/C18` are read off the latter.
-/
namespace Nx.Switch

theorem getD_take_drop (t : Bytes) (off n k : Nat) (hk : k < n) : ((t.drop off).take n).getD k 0 = t.getD (off + k) 0 := by
  simp [List.getD_eq_getElem?_getD, hk]

theorem be64_eq_iff (t : Bytes) (off N : Nat) (h : off + 8 ≤ t.length) :
    be64 t off = N ↔ N < 2 ^ 64 ∧ ∀ k, k < 8 → (t.getD (off + k) 0).toNat = N / 256 ^ (7 - k) % 256 := by
  have hl : ((t.drop off).take 8).length = 8 := by simp; omega
  rw [be64, beVal_eq_iff, hl]
  exact and_congr_right fun _ => forall₂_congr fun k hk => by rw [getD_take_drop t off 8 k hk]

theorem le32_eq_iff (t : Bytes) (off N : Nat) (h : off + 4 ≤ t.length) :
    le32 t off = N ↔ N < 2 ^ 32 ∧ ∀ k, k < 4 → (t.getD (off + k) 0).toNat = N / 256 ^ k % 256 := by
  have hl : ((t.drop off).take 4).length = 4 := by simp; omega
  rw [le32, foldr_eq_leNat, leNat_eq_iff, hl]
  exact and_congr_right fun _ => forall₂_congr fun k hk => by rw [getD_take_drop t off 4 k hk]

theorem be_digits_lt_256 (b : Nat → UInt8) (x : UInt8) (m : Nat) :
    (∀ k, k < m + 1 → (b k).toNat = x.toNat / 256 ^ (m - k) % 256) ↔ (∀ k, k < m → b k = 0) ∧ b m = x := by
  have hx := x.toNat_lt
  rw [Nat.forall_lt_succ_right, Nat.sub_self, Nat.div_one, Nat.mod_eq_of_lt hx, UInt8.toNat_inj]
  refine and_congr_left fun _ => forall₂_congr fun k hk => ?_
  have : x.toNat < 256 ^ (m - k) := Nat.lt_of_lt_of_le hx (Nat.le_self_pow (by omega) _)
  rw [Nat.div_eq_of_lt this, ← UInt8.toNat_inj]; rfl

/-- the bytes `verify_ticket` covers -/
def ticketBytesOk (t : Bytes) (titleId : Nat) : Prop :=
  t.length = 0x2C0 ∧
  -- signature type 0x10004, little endian
  t.getD 0 0 = 4 ∧ t.getD 1 0 = 0 ∧ t.getD 2 0 = 1 ∧ t.getD 3 0 = 0 ∧
  -- title id, big endian
  (∀ k, k < 8 → (t.getD (0x2A0 + k) 0).toNat = titleId / 256^(7-k) % 256) ∧ titleId < 2^64 ∧
  -- lower half of the rights id = master key revision as a 64-bit big-endian number
  (∀ k, k < 7 → t.getD (0x2A8 + k) 0 = 0) ∧ t.getD 0x2AF 0 = t.getD 0x285 0

theorem ticketOk_iff_bytes (t : Bytes) (titleId : Nat) : ticketOk t titleId = true ↔ ticketBytesOk t titleId := by
  unfold ticketOk ticketBytesOk
  by_cases hl : t.length = 0x2C0
  · have hsig : (∀ k, k < 4 → (t.getD (0 + k) 0).toNat = 0x10004 / 256 ^ k % 256) ↔
        t.getD 0 0 = 4 ∧ t.getD 1 0 = 0 ∧ t.getD 2 0 = 1 ∧ t.getD 3 0 = 0 := by
      simp [Nat.forall_lt_succ_right, ← UInt8.toNat_inj, and_assoc]
    have hr := (t.getD 0x285 0).toNat_lt
    simp only [hl, beq_self_eq_true, Bool.true_and, true_and, Bool.and_eq_true, beq_iff_eq]
    rw [le32_eq_iff t 0 _ (by omega), be64_eq_iff t 0x2A0 _ (by omega), be64_eq_iff t 0x2A8 _ (by omega), hsig,
      be_digits_lt_256 (fun k => t.getD (0x2A8 + k) 0)]
    constructor
    · rintro ⟨⟨⟨_, a0, a1, a2, a3⟩, hlt, ht⟩, _, hz⟩; exact ⟨a0, a1, a2, a3, ht, hlt, hz⟩
    · rintro ⟨a0, a1, a2, a3, ht, hlt, hz⟩; exact ⟨⟨⟨by decide, a0, a1, a2, a3⟩, hlt, ht⟩, by omega, hz⟩
  · simp [hl]

theorem ticketOk_iff_of_accepted {t : Bytes} {titleId : Nat} (hok : ticketOk t titleId = true) (t' : Bytes) :
    ticketOk t' titleId = true ↔ t'.length = t.length ∧ (∀ i, i < 4 ∨ (0x2A0 ≤ i ∧ i < 0x2AF) → t'.getD i 0 = t.getD i 0) ∧
      t'.getD 0x2AF 0 = t'.getD 0x285 0 := by
  obtain ⟨al, a0, a1, a2, a3, at_, alt, az, _⟩ := (ticketOk_iff_bytes t titleId).mp hok
  rw [ticketOk_iff_bytes]
  constructor
  · rintro ⟨bl, b0, b1, b2, b3, bt, _, bz, br⟩
    refine ⟨bl.trans al.symm, fun i hi => ?_, br⟩
    rcases hi with hi | ⟨h1, h2⟩
    · match i, hi with
      | 0, _ => exact b0.trans a0.symm
      | 1, _ => exact b1.trans a1.symm
      | 2, _ => exact b2.trans a2.symm
      | 3, _ => exact b3.trans a3.symm
    · by_cases h8 : i < 0x2A8
      · obtain ⟨k, rfl⟩ : ∃ k, i = 0x2A0 + k := ⟨i - 0x2A0, by omega⟩
        exact UInt8.toNat_inj.mp ((bt k (by omega)).trans (at_ k (by omega)).symm)
      · obtain ⟨k, rfl⟩ : ∃ k, i = 0x2A8 + k := ⟨i - 0x2A8, by omega⟩
        exact (bz k (by omega)).trans (az k (by omega)).symm
  · rintro ⟨hl, h, hr⟩
    refine ⟨hl.trans al, ?_, ?_, ?_, ?_, fun k hk => ?_, alt, fun k hk => ?_, hr⟩
    · rw [h 0 (by omega)]; exact a0
    · rw [h 1 (by omega)]; exact a1
    · rw [h 2 (by omega)]; exact a2
    · rw [h 3 (by omega)]; exact a3
    · rw [h _ (by omega)]; exact at_ k hk
    · rw [h _ (by omega)]; exact az k hk

/-- `sampleTicket 0`: an accepted ticket (title id 0x0100ABCD12345000, revision 5); any other `b2a8` breaks the run of zeros
    0x2A8..0x2AE of the rights id -/
def sampleTicket (b2a8 : UInt8) : Bytes :=
  [4, 0, 1, 0] ++ List.replicate 0x281 7 ++ [5] ++ List.replicate 0x1A 9 ++ [0x01, 0x00, 0xAB, 0xCD, 0x12, 0x34, 0x50, 0x00] ++
  [b2a8, 0, 0, 0, 0, 0, 0, 5] ++ List.replicate 0x10 0xFF

theorem sampleTicket_accepted : ticketOk (sampleTicket 0) 0x0100ABCD12345000 = true := by decide +kernel
theorem sampleTicket_refused : ticketOk (sampleTicket 1) 0x0100ABCD12345000 = false := by decide +kernel

example : ticketOk (sampleTicket 0) 0x0100ABCD12345000 = true := sampleTicket_accepted
example : ticketOk (sampleTicket 1) 0x0100ABCD12345000 = false := sampleTicket_refused
end Nx.Switch
