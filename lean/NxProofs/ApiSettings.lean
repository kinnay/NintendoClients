import NxModel.Api.Effects
import NxProofs.Bytes
/-!
# C20 — `Settings`: `__setitem__` stores a value of the key's type, `Key.ofChars?` finds exactly the declared names, `copy()` is a
fresh heap object; `setting_effect`: the keys without an effect are found by evaluating `effective` over `Key.all`
-/
namespace Nx.Api

theorem coerce_ty {t : Ty} {v : PyVal} {x : Val} (h : coerce t v = .ok x) : x.ty = t := by
  unfold coerce at h
  -- one bullet per row of `coerce`
  split at h
  · cases h; rfl
  · cases h; rfl
  · cases h; rfl
  · split at h
    · cases h; rfl
    · cases h
  · cases h
  · cases h; rfl
  · cases h; rfl
  · split at h
    · cases h; rfl
    · cases h
  · cases h

theorem setitem_ok {s s' : Settings} {name : List Char} {v : PyVal} (h : s.setitem name v = .ok s') :
    ∃ k x, Key.ofChars? name = some k ∧ coerce k.ty v = .ok x ∧ s' = s.set k x := by
  unfold Settings.setitem at h
  split at h
  next => cases h
  next k hk =>
    obtain ⟨x, hc, rfl⟩ := bind_pure_ok h
    exact ⟨k, x, hk, hc, rfl⟩

theorem key_mem_all (k : Key) : k ∈ Key.all := by cases k <;> decide

-- compared as strings: the kernel is slow on `String.toList` (a UTF-8 decoder), quick on string literals
theorem names_nodup : (Key.all.map Key.name).Nodup := by decide +kernel

theorem ofChars_name (k : Key) : Key.ofChars? k.name.toList = some k := by
  have hn : (Key.all.map fun k => k.name.toList).Nodup := by
    simpa [List.Nodup, List.pairwise_map, String.toList_inj] using names_nodup
  exact find?_beq_of_nodup_map _ hn (key_mem_all k)

theorem ofChars?_eq_none {s : String} (h : s ∉ Key.all.map Key.name) : Key.ofChars? s.toList = none := by
  simpa [Key.ofChars?, List.find?_eq_none, String.toList_inj] using h

theorem copy_fresh (h : Heap) (r : Nat) (hr : r < h.length) :
    (h.copy r).2 ≠ r ∧ Heap.get (h.copy r).1 (h.copy r).2 = Heap.get h r ∧ Heap.get (h.copy r).1 r = Heap.get h r := by
  refine ⟨Nat.ne_of_gt hr, ?_, ?_⟩ <;> simp [Heap.copy, Heap.get, List.getD, List.getElem?_append_left hr]

theorem heap_setitem_other {h h' : Heap} {r r' : Nat} {name : List Char} {v : PyVal} (hne : r' ≠ r)
    (hs : h.setitem r name v = .ok h') : Heap.get h' r' = Heap.get h r' := by
  obtain ⟨s, _, rfl⟩ := bind_pure_ok hs
  simp [Heap.get, List.getD, hne.symm]

theorem copy_independent (h : Heap) (r : Nat) (hr : r < h.length) (name : List Char) (v : PyVal) :
    (∀ h', (h.copy r).1.setitem (h.copy r).2 name v = .ok h' → Heap.get h' r = Heap.get h r) ∧
    (∀ h', (h.copy r).1.setitem r name v = .ok h' → Heap.get h' (h.copy r).2 = Heap.get h r) := by
  obtain ⟨hne, hc, ho⟩ := copy_fresh h r hr
  constructor
  · intro h' hs
    rw [heap_setitem_other (Ne.symm hne) hs, ho]
  · intro h' hs
    rw [heap_setitem_other hne hs, hc]

theorem effective_all : (Key.all.filter fun k => !effective k) = [.prudpEncryption] := by decide +kernel

theorem setting_effect (k : Key) (hk : k ≠ .prudpEncryption) :
    observe (defaults.set k (witness k).1) ≠ observe (defaults.set k (witness k).2) := by
  have : k ∉ Key.all.filter fun k => !effective k := by rw [effective_all]; simpa using hk
  simpa [effective, key_mem_all] using this

end Nx.Api
