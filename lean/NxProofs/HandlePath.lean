import NxProofs.Gating
import NxProofs.RefineSend
/-!
# C01 / C04 — the whole receive path of a reliable packet: `handle` = gates, acknowledgement, `process_reliable`

On a live link `Conn.handle` of an `Ordinary` packet (RELIABLE + NEED_ACK, no ACK flag, not of the handshake: what `send` and
the keep-alive timer emit) returns `c` unchanged — a gate refused it (state, signature, substream bound, session id), or the
acknowledgement could not be encoded and the exception left `handle` — or applies exactly `process_reliable(packet)`: sending
the acknowledgement changes nothing in the connection. `handle_reliable_path` says so, with the decision as a Bool (`Conn.accepts`).
-/
namespace Nx.L1
open Nx.Prudp

/-- **`send_ack` changes nothing in the connection** (live link): it only puts acknowledgements on the wire -/
theorem sendAck_id (env : Env) (now : Time) (c : Conn) (p : Packet) (hl : c.linkUp = true) : (c.sendAck env now p).c = c :=
  (sendAck_steps env now c p).eq_of_empty (by rintro l ⟨_, h⟩; rw [hl] at h; cases h)

/-- "the queues are EOF'd only on a DISCONNECTED connection" -/
def EofState (c : Conn) : Prop := c.eof = true → c.state = STATE_DISCONNECTED

theorem EofState.upd (u : Upd) (c : Conn) (h : u.loc ≠ .phase) (he : EofState c) : EofState (u.run c) := by
  by_cases hl : u.loc = .life
  · cases u <;> cases hl
    exact fun _ => rfl
  · have hs := u.run_life c hl h
    unfold EofState; rw [hs.1, hs.2]; exact he

theorem processReliable_link_eofState (env : Env) (c : Conn) (p : Packet) (h2 : EofState c) :
    (c.processReliable env p).c.linkUp = c.linkUp ∧ EofState (c.processReliable env p).c :=
  ⟨(processReliable_steps env c p).fixed.link,
   (processReliable_steps env c p).inv (fun u c hu => EofState.upd u c hu.ne_phase) h2⟩

/-- the checks in front of `process_reliable`, as `handle` and `process_other` make them, plus "the acknowledgement could be
    encoded" (an exception there leaves `handle` before `process_reliable` is reached) -/
def Conn.accepts (env : Env) (now : Time) (c : Conn) (p : Packet) : Bool :=
  decide (c.state ≠ STATE_DISCONNECTED) && decide (c.state ≠ STATE_CONNECTING) &&
  decide (p.signature = c.expectedSig env p) && decide (p.substreamId ≤ c.maxSub) &&
  decide (some p.sessionId = c.remoteSessionId) && (c.sendAck env now p).err.isNone

/-- **the receive path of an ordinary reliable packet on a live link**: the connection is left as it was, or
    `process_reliable(packet)` is applied to it — decided by `accepts` -/
theorem handle_reliable_path (env : Env) (now : Time) (c : Conn) (p : Packet) (ho : Ordinary p) (hl : c.linkUp = true) :
    (c.handle env now p).c = if c.accepts env now p then (c.processReliable env p).c else c := by
  have htail : ∀ r : R, (r.bind (Conn.ackTail p)).c = r.c := fun r => by
    unfold R.bind
    cases r.err with
    | some e => rfl
    | none => simp only [ackTail_of_not_ack p _ ho.nack]; rfl
  -- gate by gate: a gate that refuses returns `c`, and makes `accepts` false
  rw [Conn.accepts, Conn.expectedSig, if_neg ho.nsyn, if_neg ho.ncon, handle_eq]
  by_cases hd : c.state = STATE_DISCONNECTED
  · rw [if_pos hd, decide_eq_false (fun h => h hd)]; rfl
  rw [if_neg hd, decide_eq_true hd]
  by_cases hcg : c.state = STATE_CONNECTING
  · rw [if_pos ⟨hcg, ho.nsyn⟩, decide_eq_false (fun h => h hcg)]; rfl
  rw [if_neg (fun h => hcg h.1), decide_eq_true hcg, htail, Conn.process, if_neg ho.nsyn, if_neg ho.ncon, Conn.processOther]
  by_cases hsig : p.signature ≠ env.packetSig c.codec p c.sessionKey (env.connSig c.codec c.remoteAddr)
  · rw [if_pos hsig, decide_eq_false hsig]; rfl
  rw [if_neg hsig, decide_eq_true (Decidable.not_not.mp hsig), if_neg (by rw [ho.nmulti]; exact Bool.false_ne_true)]
  by_cases hsub : p.substreamId > c.maxSub
  · rw [if_pos hsub, decide_eq_false (Nat.not_le.mpr hsub)]; rfl
  rw [if_neg hsub, decide_eq_true (Nat.not_lt.mp hsub)]
  by_cases hsess : some p.sessionId ≠ c.remoteSessionId
  · rw [if_pos hsess, decide_eq_false hsess]; rfl
  rw [if_neg hsess, decide_eq_true (Decidable.not_not.mp hsess), if_neg (by rw [ho.nack]; exact Bool.false_ne_true)]
  -- past the gates: the acknowledgement goes out (the connection is untouched), then `process_reliable`
  simp only [ho.need, if_true, ho.rel, Bool.true_and]
  cases he : (c.sendAck env now p).err with
  | some e => rw [R.bind_err _ he, sendAck_id env now c p hl]; rfl
  | none => rw [(R.bind_ok _ _ he).2, sendAck_id env now c p hl]; rfl

end Nx.L1
