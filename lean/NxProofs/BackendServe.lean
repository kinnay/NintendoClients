import NxModel.Nex.BackendServe
import NxProofs.Admission
import NxProofs.NexKerberos
/-! lemmas about the secure server's side of a back-end login over time (`Backend.serve`) and its composition with
    the client's connection request -/
namespace Nx.Backend
open Nx.Nex

theorem serve_eq_map (s : SecureServer) (ps : List Presentation) :
    serve s ps = ps.map (fun p => (s.present p).2) := by
  induction ps with
  | nil => rfl
  | cons p rest ih => simp [serve, SecureServer.present, ih]

theorem serve_length (s : SecureServer) (ps : List Presentation) : (serve s ps).length = ps.length := by
  simp [serve_eq_map]

theorem serve_getElem? (s : SecureServer) (ps : List Presentation) (k : Nat) :
    (serve s ps)[k]? = ps[k]?.map (fun p => (s.present p).2) := by
  simp [serve_eq_map]

theorem serve_after_prefix (s : SecureServer) (pre : List Presentation) (p : Presentation) :
    (serve s (pre ++ [p]))[pre.length]? = some (s.present p).2 := by
  simp [serve_eq_map]

theorem present_stale (s : SecureServer) (p : Presentation) (td r1 rd r2 : Bytes) (ticket : Kerberos.ServerTicket) (ts : Int)
    (h1 : rBuffer p.data = .ok (td, r1)) (h2 : rBuffer r1 = .ok (rd, r2))
    (h3 : Kerberos.ServerTicket.decrypt s.kc s.key td = .ok ticket)
    (h4 : DateTime.timestamp s.tz ticket.timestamp = .ok ts)
    (h5 : (ts + 120 - (s.epoch : Int)) * 1073741824 < (p.now : Int)) :
    (s.present p).2 = .refuse .value := by
  simp only [SecureServer.present, L1.loginRequestFn, bind, Except.bind, h1, h2, h3, h4, h5, if_true]
  rfl

theorem verdictOf_accepted_iff (r : Except Err (Nat × Nat × Bytes × Bytes)) (pid cid : Nat) (sk resp : Bytes) :
    verdictOf r = .accepted pid cid sk resp ↔ r = .ok (pid, cid, sk, resp) := by
  cases r with
  | error e => exact ⟨nofun, nofun⟩
  | ok v => exact ⟨fun h => by cases h; rfl, fun h => by cases h; rfl⟩

theorem present_admit_inv (s : SecureServer) (p : Presentation) (pid cid : Nat) (sk resp : Bytes)
    (h : (s.present p).2 = .accepted pid cid sk resp) :
    ∃ td r1 ticket ts, rBuffer p.data = .ok (td, r1) ∧
      Kerberos.ServerTicket.decrypt s.kc s.key td = .ok ticket ∧
      DateTime.timestamp s.tz ticket.timestamp = .ok ts ∧
      ¬ ((ts + 120 - (s.epoch : Int)) * 1073741824 < (p.now : Int)) ∧
      pid = ticket.source ∧ sk = ticket.sessionKey := by
  obtain ⟨td, r1, rd, r2, ticket, ts, dec, r3, r4, r5, check, g1, g2, g3, g4, g5, g6, g7, g8, g9, g10, g11, g12, g13⟩ :=
    L1.login_accept_implies s.kc s.epoch s.tz p.data s.key p.now _ _ _ _ ((verdictOf_accepted_iff ..).mp h)
  exact ⟨td, r1, ticket, ts, g1, g3, g4, g5, g9, g10⟩

theorem connect_request_admitted (s : SecureServer) (c : Connect) (check : Nat) (data : Bytes) (now : Nat)
    (pid cid : Nat) (sk resp : Bytes)
    (hreq : connectRequest s.kc.pidSize c check = .ok data)
    (h : (s.present ⟨data, now⟩).2 = .accepted pid cid sk resp) (hsk : sk = c.ticket.sessionKey) :
    pid = c.pid ∧ cid = c.cid ∧ resp = u32le 4 ++ u32le ((check + 1) % 4294967296) := by
  obtain ⟨td, r1, rd, r2, ticket, ts, dec, r3, r4, r5, chk, g1, g2, g3, g4, g5, g6, g7, g8, g9, g10, g11, g12, g13⟩ :=
    L1.login_accept_implies s.kc s.epoch s.tz data s.key now _ _ _ _ ((verdictOf_accepted_iff ..).mp h)
  obtain ⟨a, ha, hreq⟩ := bind_ok hreq
  obtain ⟨pb, hp, hreq⟩ := bind_ok hreq
  obtain ⟨cb, hc, hreq⟩ := bind_ok hreq
  obtain ⟨kb, hk, hreq⟩ := bind_ok hreq
  obtain ⟨e, he, hreq⟩ := bind_ok hreq
  obtain ⟨b, hb, hreq⟩ := bind_ok hreq
  cases hreq
  -- each read of the server meets what the client wrote there
  obtain ⟨rfl, rfl⟩ := Prod.mk.inj (Except.ok.inj ((rBuffer_wBuffer ha b).symm.trans g1))
  obtain ⟨rfl, _⟩ := Prod.mk.inj (Except.ok.inj ((List.append_nil b ▸ rBuffer_wBuffer hb []).symm.trans g2))
  obtain rfl := Except.ok.inj (((g10.symm.trans hsk) ▸ g6).symm.trans (Kerberos.decrypt_encrypt _ _ _ he))
  rw [List.append_assoc] at g8
  obtain ⟨rfl, rfl⟩ := Prod.mk.inj (Except.ok.inj ((rPid_wPid _ hp _).symm.trans g8))
  obtain ⟨rfl, rfl⟩ := Prod.mk.inj (Except.ok.inj ((rdU32_wU32 hc _).symm.trans g11))
  obtain ⟨rfl, _⟩ := Prod.mk.inj (Except.ok.inj ((List.append_nil kb ▸ rdU32_wU32 hk []).symm.trans g12))
  exact ⟨rfl, rfl, g13⟩

end Nx.Backend
