import NxModel.Prudp.C02Ports
import NxProofs.Bytes
/-! Lemmas on the port table: a `with ports.bind(...)` block restores the table however its body is left. -/
namespace Nx.Prudp.Ports

theorem leave_enter (t t' : Table) (port : Option Nat) (type k : Nat)
    (h : t.enter port type = .ok (t', k)) : t'.leave k = t := by
  -- a given port and an allocated one go through the same end of `enter`
  cases port <;>
  · obtain ⟨p, _, h⟩ := bind_ok h
    obtain ⟨_, h⟩ := of_ite_error h
    cases h
    simp [Table.leave]

theorem block_restores (t : Table) (port : Option Nat) (type : Nat) (how : Exit) :
    (t.block port type how).1 = t := by
  unfold Table.block
  cases h : t.enter port type with
  | error e => rfl
  | ok r =>
    obtain ⟨t', k⟩ := r
    exact leave_enter t t' port type k h

/-- by `rfl`: `Table.block` does not read how its body is left (only `blockLeaky` does) -/
theorem block_yield_indep (t : Table) (port : Option Nat) (type : Nat) (how how' : Exit) :
    (t.block port type how).2 = (t.block port type how').2 := rfl

theorem blocks_eq (t : Table) (l : List (Option Nat × Nat × Exit)) :
    t.blocks l = (t, l.map (fun b => (t.block b.1 b.2.1 b.2.2).2)) := by
  induction l with
  | nil => rfl
  | cons b rest ih =>
    obtain ⟨port, type, how⟩ := b
    have h1 := block_restores t port type how
    simp only [Table.blocks, List.map]
    cases hb : t.block port type how with
    | mk t' y =>
      rw [hb] at h1
      cases h1
      simp only [ih]

theorem scan_free (bound : List Nat) (type n : Nat) (h : key n type ∉ bound) : scan bound type (n + 1) = some n := by
  simp [scan, h]

theorem allocate_empty (n type : Nat) : (Table.mk (n + 1) []).allocate type = .ok n := by
  rw [Table.allocate, scan_free _ _ _ List.not_mem_nil]

end Nx.Prudp.Ports
