import NxModel.Prudp.Established
import NxProofs.Footprint
/-! The pending timers `evs c` and what `cleanup`, `arm`, cancelling and `serve` do to them; the timer wheel and `advance` as a
sequence of firing rounds (`advance_succ`; `advance_invariant`: what every round keeps, `advance` keeps); an unanswered reliable
packet is retransmitted until `resend_limit` is reached and then the connection is torn down (`resend_chain`); which packets the
retransmission timers hold after a step: none it did not hold before (`ResSub`), or none but those and the ones just sent (`ResFr`) -/
namespace Nx.L1
open Nx.Prudp

def evs (c : Conn) : List Timer := match c.sched with | some s => s.events | none => []

theorem evs_some {c : Conn} {s : Sched} (hs : c.sched = some s) : evs c = s.events := by unfold evs; rw [hs]

theorem evs_none {c : Conn} (hs : c.sched = none) : evs c = [] := by unfold evs; rw [hs]

theorem evs_of_sched {c c' : Conn} (h : c'.sched = c.sched) : evs c' = evs c := by unfold evs; rw [h]

theorem evs_serve (c : Conn) (now : Time) : evs (c.serve now) = [⟨0, now + c.pingTimeout, some c.pingTimeout, .ping⟩] := rfl

theorem evs_cleanup (c : Conn) : evs c.cleanup.c = [] := by
  unfold evs Conn.cleanup; cases c.sched <;> rfl

theorem evs_arm (c : Conn) (now : Time) (p : Packet) (k : Nat) :
    evs (c.arm now p k) = evs c ∨ ∃ n, evs (c.arm now p k) = evs c ++ [⟨n, now + c.resendTimeout, none, .resend p k⟩] := by
  unfold Conn.arm
  cases hs : c.sched with
  | none => exact Or.inl rfl
  | some s => exact Or.inr ⟨s.nextHandle, by rw [evs_some hs]; rfl⟩

theorem foldl_remove_nextHandle (gone : List Nat) : ∀ s : Sched, (gone.foldl Sched.remove s).nextHandle = s.nextHandle := by
  induction gone with
  | nil => exact fun _ => rfl
  | cons g gs ih => exact fun s => ih (s.remove g)

theorem mem_foldl_remove (gone : List Nat) : ∀ (s : Sched) (t : Timer),
    t ∈ (gone.foldl Sched.remove s).events ↔ t ∈ s.events ∧ t.handle ∉ gone := by
  induction gone with
  | nil => exact fun s t => ⟨fun h => ⟨h, List.not_mem_nil⟩, fun h => h.1⟩
  | cons g gs ih =>
    intro s t
    rw [List.foldl_cons, ih, Sched.remove, List.mem_filter, bne_iff_ne, List.mem_cons, not_or, and_assoc]

theorem mem_evs_cancel (c : Conn) (acks : List (AckKey × Nat)) (gone : List Nat) (t : Timer) :
    t ∈ evs { c with ackEvents := acks, sched := c.sched.map (gone.foldl Sched.remove) } ↔ t ∈ evs c ∧ t.handle ∉ gone := by
  cases hs : c.sched with
  | none => rw [evs_none hs]; exact ⟨nofun, fun h => nomatch h.1⟩
  | some s => rw [evs_some hs]; exact mem_foldl_remove gone s t

theorem resendsOf_eq (c : Conn) : resendsOf c = (evs c).filterMap fun t => actPacket t.act := by
  unfold resendsOf evs; cases c.sched <;> rfl

/-- everything a blocked caller waits on is released -/
def Conn.Released (c : Conn) : Prop :=
  c.state = STATE_DISCONNECTED ∧ c.eof = true ∧ c.handshakeEvent = true ∧ c.closeEvent = true ∧
  (∀ s, c.sched = some s → s.events = [])

theorem Conn.Released.noTimers {c : Conn} (h : c.Released) {s : Sched} (hs : c.sched = some s) : s.events = [] := h.2.2.2.2 s hs

theorem cleanup_released (c : Conn) : c.cleanup.c.Released :=
  ⟨rfl, rfl, rfl, rfl, fun _ hs => (evs_some hs).symm.trans (evs_cleanup c)⟩

/-- nothing is due any more at `T` -/
def Conn.Settled (c : Conn) (T : Nat) : Prop := ∀ t ∈ evs c, T < t.deadline

instance (c : Conn) (T : Nat) : Decidable (c.Settled T) := by unfold Conn.Settled; infer_instance

theorem nextDeadline_eq_min? (s : Sched) : s.nextDeadline = (s.events.map (·.deadline)).min? := by
  have gen : ∀ (l : List Timer) (x : Time),
      l.foldl (fun m t => match m with | none => some t.deadline | some d => some (min d t.deadline)) (some x) =
        some ((l.map (·.deadline)).foldl min x) := by
    intro l
    induction l with
    | nil => exact fun _ => rfl
    | cons t ts ih => exact fun x => ih (min x t.deadline)
  unfold Sched.nextDeadline
  cases s.events with
  | nil => rfl
  | cons t ts => exact gen ts t.deadline

theorem nextDeadline_spec (s : Sched) :
    (s.nextDeadline = none → s.events = []) ∧
    ∀ d, s.nextDeadline = some d → (∃ t ∈ s.events, t.deadline = d) ∧ ∀ t ∈ s.events, d ≤ t.deadline := by
  rw [nextDeadline_eq_min?]
  refine ⟨fun h => List.map_eq_nil_iff.mp (List.min?_eq_none_iff.mp h), fun d h => ?_⟩
  obtain ⟨h1, h2⟩ := List.min?_eq_some_iff.mp h
  exact ⟨List.mem_map.mp h1, fun t ht => h2 _ (List.mem_map_of_mem ht)⟩

theorem mem_takeDue (s : Sched) (d : Time) (t : Timer) :
    t ∈ (s.takeDue d).1.events ↔
      t ∈ s.events ∧ d < t.deadline ∨ ∃ t0 ∈ s.events, t0.deadline ≤ d ∧ ∃ r, t0.rep = some r ∧ { t0 with deadline := t0.deadline + r } = t := by
  simp only [Sched.takeDue, List.mem_append, List.mem_filter, List.mem_filterMap, Option.map_eq_some_iff, decide_eq_true_eq,
    Bool.not_eq_true', decide_eq_false_iff_not, Nat.not_le, and_assoc]

theorem act_mem_takeDue {s : Sched} {d : Time} {t : Timer} (ht : t ∈ s.events) (hd : t.deadline ≤ d) : t.act ∈ (s.takeDue d).2 :=
  List.mem_map_of_mem (List.mem_filter.mpr ⟨ht, decide_eq_true hd⟩)

/-- one firing round of `advance`: the timers due at `d` are taken from the wheel and fired -/
def Conn.round (env : Env) (c : Conn) (s : Sched) (d : Time) : Conn :=
  (Conn.fireAll env d (s.takeDue d).2 { c with sched := some (s.takeDue d).1 }).c

theorem round_steps (env : Env) (c : Conn) (s : Sched) (d : Time) :
    Steps (sendLoc d false 0) { c with sched := some (s.takeDue d).1 } (c.round env s d) := fireAll_steps env d _ _

theorem advance_succ (env : Env) (n T : Nat) (c : Conn) :
    (Conn.advance env (n + 1) T c).1 = c ∧ c.Settled T ∨
    ∃ s d, c.sched = some s ∧ s.nextDeadline = some d ∧ d ≤ T ∧
      (Conn.advance env (n + 1) T c).1 = (Conn.advance env n T (c.round env s d)).1 := by
  rw [Conn.advance]
  cases hs : c.sched with
  | none => exact Or.inl ⟨rfl, fun t ht => by rw [evs_none hs] at ht; cases ht⟩
  | some s =>
    simp only []
    cases hd : s.nextDeadline with
    | none => exact Or.inl ⟨rfl, fun t ht => by rw [evs_some hs, (nextDeadline_spec s).1 hd] at ht; cases ht⟩
    | some d =>
      simp only []
      by_cases hle : d ≤ T
      · rw [if_pos hle]; exact Or.inr ⟨s, d, rfl, hd, hle, rfl⟩
      · rw [if_neg hle]
        refine Or.inl ⟨rfl, fun t ht => ?_⟩
        rw [evs_some hs] at ht
        exact Nat.lt_of_lt_of_le (Nat.lt_of_not_le hle) (((nextDeadline_spec s).2 d hd).2 t ht)

theorem advance_invariant (env : Env) (T : Nat) (I : Conn → Prop)
    (hround : ∀ (c : Conn) (s : Sched) (d : Nat), c.sched = some s → s.nextDeadline = some d → d ≤ T → I c → I (c.round env s d)) :
    ∀ (fuel : Nat) (c : Conn), I c → I (Conn.advance env fuel T c).1 := by
  intro fuel
  induction fuel with
  | zero => exact fun c h => h
  | succ n ih =>
    intro c h
    rcases advance_succ env n T c with ⟨e, _⟩ | ⟨s, d, hs, hd, hle, e⟩ <;> rw [e]
    · exact h
    · exact ih _ (hround c s d hs hd hle h)

/-- a connection whose only timer is the retransmission timer of `p` (a silent peer: nothing ever cancels it) -/
def Conn.OnlyResend (c : Conn) (p : Packet) (k : Nat) (d : Time) : Prop :=
  ∃ n h, c.sched = some ⟨n, [⟨h, d, none, .resend p k⟩]⟩

theorem released_stable_advance (env : Env) (fuel : Nat) (T : Time) (c : Conn) (h : c.Released) :
    (Conn.advance env fuel T c).1 = c := by
  cases fuel with
  | zero => rfl
  | succ n =>
    rcases advance_succ env n T c with ⟨e, _⟩ | ⟨s, d, hs, hd, _, _⟩
    · exact e
    · obtain ⟨⟨t, ht, _⟩, _⟩ := (nextDeadline_spec s).2 d hd
      rw [h.noTimers hs] at ht; cases ht

theorem round_onlyResend (env : Env) (c : Conn) (n h : Nat) (p : Packet) (k : Nat) (d : Time) :
    c.round env ⟨n, [⟨h, d, none, .resend p k⟩]⟩ d = (({ c with sched := some ⟨n, []⟩ } : Conn).resendPacket env d p k).c := by
  simp [Conn.round, Sched.takeDue, Conn.fireAll, fireOne_resend, R.ok]

/-- the retransmission chain. With `k = 0` and `d = t₀ + resend_timeout` the instant `d + m·resend_timeout` is the bound
    `t₀ + (resend_limit + 1)·resend_timeout` of C02 for a connect to a silent peer (`Nx.C02.connect_bound`) -/
theorem resend_chain (env : Env) (T : Nat) : ∀ (m : Nat) (c : Conn) (p : Packet) (k : Nat) (d : Nat) (fuel : Nat),
    c.OnlyResend p k d → c.linkUp = true → k + m = c.resendLimit → m + 1 ≤ fuel → d + m * (c.resendTimeout : Nat) ≤ T →
    (Conn.advance env fuel T c).1.Released := by
  intro m c p k d fuel
  induction fuel generalizing m c k d with
  | zero => intro _ _ _ hf; omega
  | succ f ih =>
    intro ⟨n, h, hs⟩ hl hk hf hT
    have hd : d ≤ T := Nat.le_trans (Nat.le_add_right _ _) hT
    rcases advance_succ env f T c with ⟨_, hset⟩ | ⟨s, d', hs', hd', _, e⟩
    · exact absurd (hset ⟨h, d, none, .resend p k⟩ (by rw [evs_some hs]; exact List.mem_singleton_self _)) (Nat.not_lt.mpr hd)
    obtain rfl : s = ⟨n, [⟨h, d, none, .resend p k⟩]⟩ := Option.some.inj (hs'.symm.trans hs)
    cases hd' -- `nextDeadline` of the one-timer wheel computes to `some d`
    rw [e, round_onlyResend]
    by_cases hk' : k < c.resendLimit
    · -- below the limit: the packet goes out again, and its timer is the only one again
      obtain ⟨m, rfl⟩ : ∃ m', m = m' + 1 := ⟨m - 1, by omega⟩
      rw [resend_step_below env d { c with sched := some ⟨n, []⟩ } p k hk' hl]
      -- `arm` on a scheduler that is there computes: the new timer is the only one, the settings are those of `c`
      refine ih m _ (k + 1) (d + c.resendTimeout) ⟨n + 1, n, rfl⟩ hl ((Nat.add_right_comm k 1 m).trans hk) (Nat.le_of_succ_le_succ hf) ?_
      show d + c.resendTimeout + m * c.resendTimeout ≤ T
      rw [Nat.add_assoc, Nat.add_comm c.resendTimeout, ← Nat.succ_mul]
      exact hT
    · rw [resend_step_limit env d { c with sched := some ⟨n, []⟩ } p k hk']
      have hrel := cleanup_released ({ c with sched := some ⟨n, []⟩ } : Conn)
      rw [released_stable_advance env f T _ hrel]
      exact hrel

/-- the step stored no retransmission -/
def ResSub (c c' : Conn) : Prop := ∀ q ∈ resendsOf c', q ∈ resendsOf c

theorem resSub_refl (c : Conn) : ResSub c c := fun _ h => h
theorem resSub_trans {a b c : Conn} (h1 : ResSub a b) (h2 : ResSub b c) : ResSub a c := fun q hq => h1 q (h2 q hq)

theorem resSub_of_evs {c c' : Conn} (h : ∀ t ∈ evs c', t ∈ evs c) : ResSub c c' := by
  intro q hq
  rw [resendsOf_eq] at hq ⊢
  obtain ⟨t, ht, hq⟩ := List.mem_filterMap.mp hq
  exact List.mem_filterMap.mpr ⟨t, h t ht, hq⟩

theorem resSub_of_sched {c c' : Conn} (h : c'.sched = c.sched) : ResSub c c' := resSub_of_evs fun _ ht => evs_of_sched h ▸ ht

theorem cleanup_resSub (c : Conn) : ResSub c c.cleanup.c := resSub_of_evs fun _ ht => by rw [evs_cleanup] at ht; cases ht

theorem resSub_cancel (c : Conn) (acks : List (AckKey × Nat)) (gone : List Nat) :
    ResSub c { c with ackEvents := acks, sched := c.sched.map (gone.foldl Sched.remove) } :=
  resSub_of_evs fun t ht => ((mem_evs_cancel c acks gone t).mp ht).1

theorem resends_remove (c : Conn) (s : Sched) (h : Nat) (hs : c.sched = some s) (c' : Conn) (hc : c'.sched = some (s.remove h)) : ResSub c c' :=
  resSub_trans (resSub_cancel c c.ackEvents [h]) (resSub_of_sched (by rw [hc, hs]; rfl))

/-- no retransmission is stored by anything but arming a timer -/
def ResSub.tol : Loc → Prop
  | .arm _ => False
  | _ => True

theorem ResSub.upd (u : Upd) (c : Conn) (h : ResSub.tol u.loc) : ResSub c (u.run c) := by
  rcases u.run_timers c with ⟨hs, _⟩ | rfl | ⟨now, p, k, rfl⟩ | hc
  · exact resSub_of_sched hs
  · exact cleanup_resSub c
  · exact False.elim h
  · obtain ⟨acks, gone, _, _, e⟩ := u.cancel_eq c hc
    rw [e]; exact resSub_cancel c acks gone

/-- the step stored no retransmission but packets of `new` (for the send path: what the call handed to the transport) -/
def ResFr (c c' : Conn) (new : List Packet) : Prop := ∀ q ∈ resendsOf c', q ∈ resendsOf c ∨ q ∈ new

theorem ResSub.resFr {c c' : Conn} (h : ResSub c c') (new : List Packet) : ResFr c c' new := fun q hq => Or.inl (h q hq)

theorem resFr_refl (c : Conn) (new : List Packet) : ResFr c c new := fun _ h => Or.inl h

theorem resFr_trans {a b c : Conn} {n1 n2 : List Packet} (h1 : ResFr a b n1) (h2 : ResFr b c n2) : ResFr a c (n1 ++ n2) := by
  intro q hq
  rcases h2 q hq with h | h
  · rcases h1 q h with g | g
    · exact Or.inl g
    · exact Or.inr (List.mem_append_left _ g)
  · exact Or.inr (List.mem_append_right _ h)

theorem resFr_mono {a b : Conn} {n1 n2 : List Packet} (h : ResFr a b n1) (hs : ∀ q ∈ n1, q ∈ n2) : ResFr a b n2 := by
  intro q hq
  rcases h q hq with g | g
  · exact Or.inl g
  · exact Or.inr (hs q g)

theorem arm_resFr (c : Conn) (now : Time) (p : Packet) (k : Nat) : ResFr c (c.arm now p k) [p] := by
  intro q hq
  rw [resendsOf_eq] at hq ⊢
  rcases evs_arm c now p k with e | ⟨n, e⟩ <;> rw [e] at hq
  · exact Or.inl hq
  · rw [List.filterMap_append, List.mem_append] at hq; exact hq

end Nx.L1
