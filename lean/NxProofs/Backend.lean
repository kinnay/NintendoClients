import NxModel.Nex.Backend
import NxModel.Prudp.Conn
/-! `Backend.plan` read as a decision table: which key is chosen (`chooseKey_eq`, `chooseKey_ok_inv`), what follows the first ticket
(`afterTicket_shape`), the gates walked once (`plan_cases`) and the only way to a connection (`plan_connect_inv`). -/
namespace Nx.Backend

/-- the decoded `source_key` the login path sees (`[]` when the path has no such field) -/
def sourceKeyOf (cfg : Cfg) (a : Args) (r : AuthResp) : Option Bytes :=
  if readsSourceKey cfg a then fromHexStrict r.sourceKey else some []

theorem chooseKey_eq (cfg : Cfg) (a : Args) (r : AuthResp) :
    chooseKey cfg a r =
      match sourceKeyOf cfg a r with
      | none => .error (.exc .value)
      | some sk =>
        if !sk.isEmpty then .ok (.source sk, sk)
        else match a.password with
          | none => .error (.exc .value)
          | some pw =>
            match deriveKey cfg.keyDerivation pw r.pid with
            | .ok k => .ok (.derived cfg.keyDerivation r.pid k, k)
            | .error e => .error (.exc e) := by
  unfold sourceKeyOf chooseKey
  by_cases hr : readsSourceKey cfg a = true
  · rw [if_pos hr, if_pos hr]; cases fromHexStrict r.sourceKey <;> rfl
  · rw [if_neg hr, if_neg hr]; rfl

theorem chooseKey_ok_inv (cfg : Cfg) (a : Args) (r : AuthResp) (ku : KeyUse) (key : Bytes)
    (h : chooseKey cfg a r = .ok (ku, key)) :
    (∃ sk, sourceKeyOf cfg a r = some sk ∧ sk ≠ [] ∧ ku = .source sk ∧ key = sk) ∨
    (∃ pw, sourceKeyOf cfg a r = some [] ∧ a.password = some pw ∧
       deriveKey cfg.keyDerivation pw r.pid = .ok key ∧ ku = .derived cfg.keyDerivation r.pid key) := by
  rw [chooseKey_eq] at h
  cases hs : sourceKeyOf cfg a r with
  | none => rw [hs] at h; cases h
  | some sk =>
    rw [hs] at h
    cases sk with
    | cons x xs =>
      injection h with h; injection h with h1 h2
      exact Or.inl ⟨_, rfl, nofun, h1.symm, h2.symm⟩
    | nil =>
      cases hp : a.password with
      | none => simp only [hp] at h; cases h
      | some pw =>
        cases hd : deriveKey cfg.keyDerivation pw r.pid with
        | error e => simp only [hp, hd] at h; cases h
        | ok k => simp only [hp, hd] at h; cases h; exact Or.inr ⟨pw, rfl, rfl, hd, rfl⟩

theorem afterTicket_direct (cfg : Cfg) (r : AuthResp) (second : Reply TicketResp) (c1 : Call) (ku : KeyUse)
    (key : Bytes) (t : ClientTicket) (h : t.target = r.station.pid) :
    afterTicket cfg r second c1 ku key t = finish cfg r ku [c1] t := by
  simp [afterTicket, h]

theorem afterTicket_shape (cfg : Cfg) (r : AuthResp) (second : Reply TicketResp) (c1 : Call) (ku : KeyUse)
    (key : Bytes) (t : ClientTicket) :
    ∃ o, afterTicket cfg r second c1 ku key t =
        ⟨if t.target ≠ r.station.pid then [c1, .requestTicket r.pid r.station.pid] else [c1], ku, o⟩ ∧
      ∀ c, o = .ok c →
        ∃ tf, c = ⟨(target cfg r.station).1, (target cfg r.station).2, r.station.sid, r.pid, r.station.cid, tf⟩ ∧
          ((t.target = r.station.pid ∧ tf = t) ∨
           (t.target ≠ r.station.pid ∧ ∃ r2, second = .resp r2 ∧ isError r2.result = false ∧
              clientTicketDecrypt cfg.keySize cfg.pidSize r2.ticket key = .ok tf)) := by
  unfold afterTicket
  by_cases htg : t.target ≠ r.station.pid
  · rw [if_pos htg, if_pos htg]
    cases second with
    | fail code => exact ⟨_, rfl, nofun⟩
    | resp r2 =>
      simp only []
      by_cases he : isError r2.result = true
      · rw [if_pos he]; exact ⟨_, rfl, nofun⟩
      · rw [if_neg he]
        cases hd : clientTicketDecrypt cfg.keySize cfg.pidSize r2.ticket key with
        | error e => exact ⟨_, rfl, nofun⟩
        | ok t2 =>
          exact ⟨_, rfl, fun c hc => ⟨t2, (Except.ok.inj hc).symm, Or.inr ⟨htg, r2, rfl, by simpa using he, hd⟩⟩⟩
  · rw [if_neg htg, if_neg htg]
    exact ⟨_, rfl, fun c hc => ⟨t, (Except.ok.inj hc).symm, Or.inl ⟨Decidable.not_not.mp htg, rfl⟩⟩⟩

/-- the one walk through the gates of `plan`. The refusals are lumped together (their users need only that the outcome is an error);
    gate by gate they are `C17.error_no_connection_*`. -/
theorem plan_cases (cfg : Cfg) (a : Args) (s : Script) :
    (∃ ku f, plan cfg a s = ⟨[firstCall cfg a], ku, .error f⟩) ∨
    ∃ r ku key t, s.first = .resp r ∧ ¬ (checksResult cfg = true ∧ isError r.result = true) ∧
      chooseKey cfg a r = .ok (ku, key) ∧ clientTicketDecrypt cfg.keySize cfg.pidSize r.ticket key = .ok t ∧
      plan cfg a s = afterTicket cfg r s.second (firstCall cfg a) ku key t := by
  unfold plan afterKey
  cases hf : s.first with
  | fail code => exact .inl ⟨_, _, rfl⟩
  | resp r =>
    simp only [Bool.and_eq_true]
    by_cases hres : checksResult cfg = true ∧ isError r.result = true
    · rw [if_pos hres]; exact .inl ⟨_, _, rfl⟩
    rw [if_neg hres]
    cases hk : chooseKey cfg a r with
    | error f => exact .inl ⟨_, _, rfl⟩
    | ok p =>
      obtain ⟨ku, key⟩ := p
      cases hd : clientTicketDecrypt cfg.keySize cfg.pidSize r.ticket key with
      | error e => exact .inl ⟨ku, .exc e, by simp only [hd]⟩
      | ok t => exact .inr ⟨r, ku, key, t, rfl, hres, hk, hd, by simp only [hd]⟩

theorem plan_connect_inv (cfg : Cfg) (a : Args) (s : Script) (c : Connect) (h : (plan cfg a s).outcome = .ok c) :
    ∃ r ku key t tf, s.first = .resp r ∧ ¬ (checksResult cfg = true ∧ isError r.result = true) ∧
      chooseKey cfg a r = .ok (ku, key) ∧ (plan cfg a s).key = ku ∧
      clientTicketDecrypt cfg.keySize cfg.pidSize r.ticket key = .ok t ∧
      c = ⟨(target cfg r.station).1, (target cfg r.station).2, r.station.sid, r.pid, r.station.cid, tf⟩ ∧
      (plan cfg a s).calls = (if t.target ≠ r.station.pid then [firstCall cfg a, .requestTicket r.pid r.station.pid]
                              else [firstCall cfg a]) ∧
      ((t.target = r.station.pid ∧ tf = t) ∨
       (t.target ≠ r.station.pid ∧ ∃ r2, s.second = .resp r2 ∧ isError r2.result = false ∧
          clientTicketDecrypt cfg.keySize cfg.pidSize r2.ticket key = .ok tf)) := by
  rcases plan_cases cfg a s with ⟨_, _, e⟩ | ⟨r, ku, key, t, hf, hres, hk, hd, e⟩
  · rw [e] at h; cases h
  · obtain ⟨o, e', inv⟩ := afterTicket_shape cfg r s.second (firstCall cfg a) ku key t
    rw [e, e'] at h ⊢
    obtain ⟨tf, hc, hcase⟩ := inv c h
    exact ⟨r, ku, key, t, tf, hf, hres, hk, rfl, hd, hc, rfl, hcase⟩

theorem session_eq_map (c : Client) (steps : List Step) :
    session c steps = steps.map (fun st => plan c.cfg st.args st.script) := by
  induction steps with
  | nil => rfl
  | cons st rest ih => simp [session, Client.login, ih]

theorem session_length (c : Client) (steps : List Step) : (session c steps).length = steps.length := by
  simp [session_eq_map]

theorem session_getElem? (c : Client) (steps : List Step) (k : Nat) :
    (session c steps)[k]? = steps[k]?.map (fun st => plan c.cfg st.args st.script) := by
  simp [session_eq_map]

theorem session_append (c : Client) (pre post : List Step) :
    session c (pre ++ post) = session c pre ++ session c post := by
  simp [session_eq_map]

theorem session_after_prefix (c : Client) (pre : List Step) (st : Step) :
    (session c (pre ++ [st]))[pre.length]? = some (plan c.cfg st.args st.script) := by
  simp [session_eq_map]

end Nx.Backend

namespace Nx.L1

/-- the `kerberos.Credentials(ticket, pid, cid)` that `backend.login` passes to `prudp.connect`, as the L1 client holds them -/
def credsOfConnect (c : Backend.Connect) : Creds := ⟨c.pid, c.cid, c.ticket.sessionKey, c.ticket.internal⟩

end Nx.L1
