import NxProofs.NexStreams
import NxProofs.NexKerberos
import NxProofs.Admission
import NxModel.Prudp.L1Crypto
/-! C05, the honest direction: a client that holds a ticket produced by the reference construction (C16) for the server's key,
not older than 120 s, and builds its connection request the way `build_connection_request` does, IS admitted, as the
ticket's user, with the ticket's session key, and is sent exactly the response its own check demands. -/
namespace Nx.L1
open Nx.Nex Nx.Nex.Kerberos Nx.Crypto

theorem honest_request_admitted (kc : Nex.Kerberos.Cfg) (epoch : Nat) (tz : Int) (key ticketKey : Bytes) (t : ServerTicket)
    (tb rb tbuf reqbuf pidb : Bytes) (cid check : Nat) (now : Time) (ts : Int)
    (hT : ServerTicket.encrypt kc key ticketKey t = .ok tb)
    (hpid : wPid kc.pidSize t.source = .ok pidb) (hplen : pidb.length = kc.pidSize)
    (hcid : cid < 4294967296) (hchk : check < 4294967296)
    (hR : Kerberos.encrypt t.sessionKey (pidb ++ u32le cid ++ u32le check) = .ok rb)
    (hb1 : wBuffer tb = .ok tbuf) (hb2 : wBuffer rb = .ok reqbuf)
    (hts : DateTime.timestamp tz t.timestamp = .ok ts)
    (hfresh : ¬ ((ts + 120 - (epoch : Int)) * 1073741824 < (now : Int))) :
    loginRequestFn kc epoch tz (tbuf ++ reqbuf) key now =
      .ok (t.source, cid, t.sessionKey, u32le 4 ++ u32le ((check + 1) % 4294967296)) := by
  unfold loginRequestFn
  have h1 : rBuffer (tbuf ++ reqbuf) = .ok (tb, reqbuf) := rBuffer_wBuffer hb1 reqbuf
  have h2 : rBuffer reqbuf = .ok (rb, []) := by simpa using rBuffer_wBuffer hb2 []
  have h3 : ServerTicket.decrypt kc key tb = .ok t := serverTicket_roundtrip kc key ticketKey t tb hT
  have h4 : Kerberos.decrypt t.sessionKey rb = .ok (pidb ++ u32le cid ++ u32le check) := decrypt_encrypt _ _ _ hR
  have h5 : rPid kc.pidSize (pidb ++ (u32le cid ++ u32le check)) = .ok (t.source, u32le cid ++ u32le check) := rPid_wPid kc.pidSize hpid _
  have h6 : rdU32 (u32le cid ++ u32le check) = .ok (cid, u32le check) := rdU32_u32le cid _ hcid
  have h7 : rdU32 (u32le check) = .ok (check, []) := by simpa using rdU32_u32le check [] hchk
  simp only [bind, Except.bind, h1, h2, h3, hts, hfresh, if_false, h4, ne_eq, not_true_eq_false, List.append_assoc, h5, h6, h7, pure, Except.pure]
  simp [hplen]

theorem kerbEncryptFn_is_encrypt (key data : Bytes) (h : rc4KeyOk key = true) :
    Kerberos.encrypt key data = .ok (kerbEncryptFn key data) := by
  simp [Kerberos.encrypt, kerbEncryptFn, h]

theorem kerbEncryptFn_length (key data : Bytes) : (kerbEncryptFn key data).length = data.length + 16 := by
  simp only [kerbEncryptFn, List.length_append, rc4, rc4Apply_length, hmacMd5_length]

theorem honest_path (s : Settings) (cfg : Prudp.Cfg) (kc : Nex.Kerberos.Cfg) (epoch : Nat) (tz : Int)
    (key ticketKey : Bytes) (t : ServerTicket) (tb : Bytes) (c : Conn) (cr : Creds) (now : Time) (ts : Int)
    (hT : ServerTicket.encrypt kc key ticketKey t = .ok tb)
    (hcreds : c.credentials = some cr) (hint : cr.internal = tb) (hsk : cr.sessionKey = t.sessionKey) (hpid : cr.pid = t.source)
    (hps : s.pidSize = kc.pidSize) (hps' : kc.pidSize = 8 ∨ kc.pidSize = 4)
    (hpr : t.source < (if kc.pidSize = 8 then 18446744073709551616 else 4294967296))
    (hcid : cr.cid < 4294967296) (hchk : c.connectionCheck < 4294967296)
    (hkey : rc4KeyOk t.sessionKey = true) (htl : tb.length < 4294967296)
    (hts : DateTime.timestamp tz t.timestamp = .ok ts)
    (hfresh : ¬ ((ts + 120 - (epoch : Int)) * 1073741824 < (now : Int))) :
    let env := mkEnv s cfg kc epoch tz
    ∃ resp, env.loginRequest (c.buildConnectionRequest env) key now = .ok (t.source, cr.cid, t.sessionKey, resp) ∧
      c.checkConnectionResponse resp = none := by
  intro env
  refine ⟨u32le 4 ++ u32le ((c.connectionCheck + 1) % 4294967296), ?_, ?_⟩
  · obtain ⟨pidb, hpidb⟩ : ∃ x, x = (if kc.pidSize = 8 then u64le t.source else u32le t.source) := ⟨_, rfl⟩
    have hpidw : wPid kc.pidSize t.source = .ok pidb := by
      rw [hpidb]
      unfold wPid wU64 wU32
      by_cases h8 : kc.pidSize = 8
      · simp only [h8, if_true] at hpr ⊢; rw [if_pos hpr]
      · simp only [h8, if_false] at hpr ⊢; rw [if_pos hpr]
    have hplen : pidb.length = kc.pidSize := by
      rw [hpidb]; rcases hps' with h | h <;> simp [h]
    have hb : c.buildConnectionRequest env =
        (u32le tb.length ++ tb) ++ (u32le (kerbEncryptFn t.sessionKey (pidb ++ u32le cr.cid ++ u32le c.connectionCheck)).length ++
          kerbEncryptFn t.sessionKey (pidb ++ u32le cr.cid ++ u32le c.connectionCheck)) := by
      simp only [hpidb, Conn.buildConnectionRequest, hcreds, env, mkEnv, hint, hsk, hpid, hps, List.append_assoc]
    have hel : (kerbEncryptFn t.sessionKey (pidb ++ u32le cr.cid ++ u32le c.connectionCheck)).length < 4294967296 := by
      rw [kerbEncryptFn_length, List.length_append, List.length_append, u32le_length, u32le_length]
      rcases hps' with h | h <;> omega
    rw [hb]
    exact honest_request_admitted kc epoch tz key ticketKey t tb _ _ _ _ cr.cid c.connectionCheck now ts hT hpidw hplen hcid hchk
      (kerbEncryptFn_is_encrypt _ _ hkey) (wBuffer_eq_ok.mpr ⟨htl, rfl⟩) (wBuffer_eq_ok.mpr ⟨hel, rfl⟩) hts hfresh
  · apply (client_response_check c _).mpr
    rw [hcreds]

end Nx.L1
