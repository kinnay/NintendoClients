import NxModel.Nex.Kerberos
import NxProofs.NexStreams
import NxProofs.Crypto
/-! Kerberos (C16). The envelope is `RC4(x) ‖ HMAC-MD5(RC4(x))`: `decrypt (encrypt x) = x` needs only that RC4 under one
key is an involution and that a digest has 16 bytes, so the tag splits off. A ticket is a stream round trip
(`NxProofs/NexStreams.lean`) inside an envelope. The model's `md5Iter` hashes the accumulator first, as the Python loop does;
`md5Pow` puts the last application outermost, which is the `md5^n` of the property's statements. -/
namespace Nx.Nex.Kerberos
open Nx.Crypto

theorem rc4_involution (key x : Bytes) : rc4 key (rc4 key x) = x := (rc4Apply_involutive x _).1

theorem le32_length (w : UInt32) : (le32 w).length = 4 := rfl

theorem body_append_tag (e t : Bytes) (ht : t.length = 16) : body (e ++ t) = e ∧ tag (e ++ t) = t := by
  unfold body tag
  have : (e ++ t).length - 16 = e.length := by simp [ht]
  rw [this]
  simp

theorem check_encrypt (key e : Bytes) : check key (e ++ hmacMd5 key e) = true := by
  obtain ⟨hb, ht⟩ := body_append_tag e (hmacMd5 key e) (hmacMd5_length key e)
  unfold check
  rw [hb, ht]
  simp

theorem decrypt_encrypt (key data b : Bytes) (h : Kerberos.encrypt key data = .ok b) :
    Kerberos.decrypt key b = .ok data := by
  obtain ⟨hk, rfl⟩ := guard_ok h
  unfold Kerberos.decrypt
  simp only [check_encrypt, Bool.not_true, Bool.false_eq_true, if_false, hk, if_true]
  rw [(body_append_tag _ _ (hmacMd5_length key _)).1, rc4_involution]

theorem le_length_of_tag {key m b : Bytes} (h : tag b = hmacMd5 key m) : 16 ≤ b.length := by
  have := congrArg List.length h
  rw [hmacMd5_length, tag, List.length_drop] at this
  omega

theorem decrypt_rejects (key b : Bytes) (h : tag b ≠ hmacMd5 key (body b)) : Kerberos.decrypt key b = .error .value := by
  simp [Kerberos.decrypt, check, h]

/-- HMAC pads a key shorter than its block with zeros, so `key` and `key ++ [0]` are one key to it -/
theorem hmacMd5_key_zero (key m : Bytes) (h : key.length < 64) : hmacMd5 (key ++ [0]) m = hmacMd5 key m := by
  have hpad : key ++ [0] ++ List.replicate (64 - (key ++ [0]).length) 0 = key ++ List.replicate (64 - key.length) 0 := by
    rw [show 64 - key.length = 64 - (key ++ [0]).length + 1 by simp; omega, List.append_assoc]
    rfl
  unfold hmacMd5
  simp only [if_neg (show ¬ key.length > 64 by omega), if_neg (show ¬ (key ++ [0]).length > 64 by simp; omega), hpad]

theorem wrong_key_accepted (key data b : Bytes) (hk : 1 ≤ key.length) (h64 : key.length < 64)
    (h : Kerberos.encrypt key data = .ok b) : ∃ x, Kerberos.decrypt (key ++ [0]) b = .ok x := by
  obtain ⟨_, rfl⟩ := guard_ok h
  have hc : check (key ++ [0]) (rc4 key data ++ hmacMd5 key (rc4 key data)) = true := by
    have := check_encrypt (key ++ [0]) (rc4 key data)
    rwa [hmacMd5_key_zero key _ h64] at this
  have hk2 : rc4KeyOk (key ++ [0]) = true := by
    unfold rc4KeyOk; simp; omega
  unfold Kerberos.decrypt
  simp [hc, hk2]

/-- reference: `n`-fold iteration written with `Nat.iterate`-style recursion from the other end -/
def md5Pow : Nat → Bytes → Bytes
  | 0, k => k
  | n + 1, k => md5 (md5Pow n k)

theorem md5Iter_add (a b : Nat) (k : Bytes) : md5Iter (a + b) k = md5Iter b (md5Iter a k) := by
  induction a generalizing k with
  | zero => simp [md5Iter]
  | succ a ih => rw [Nat.succ_add, md5Iter, ih]; rfl

theorem md5Iter_succ (n : Nat) (k : Bytes) : md5Iter (n + 1) k = md5 (md5Iter n k) := md5Iter_add n 1 k

theorem md5Iter_eq_pow (n : Nat) (k : Bytes) : md5Iter n k = md5Pow n k := by
  induction n with
  | zero => rfl
  | succ n ih => rw [md5Iter_succ, ih]; rfl

theorem clientTicket_roundtrip (c : Cfg) (key : Bytes) (t : ClientTicket) (b : Bytes)
    (h : ClientTicket.encrypt c key t = .ok b) : ClientTicket.decrypt c key b = .ok t := by
  obtain ⟨d, hd, he⟩ := bind_ok h
  obtain ⟨hks, hd⟩ := of_ite_error hd
  obtain ⟨p, hp, hd⟩ := bind_ok hd
  obtain ⟨bb, hbb, hd⟩ := bind_ok hd
  cases hd
  have h1 := decrypt_encrypt key _ b he
  have h2 := rd_append' t.sessionKey (p ++ bb) (Decidable.not_not.mp hks).symm
  have h3 := rPid_wPid c.pidSize hp bb
  have h4 : rBuffer bb = .ok (t.internal, []) := by simpa using rBuffer_wBuffer hbb []
  simp only [ClientTicket.decrypt, h1, bind, Except.bind, List.append_assoc, h2, h3, h4, pure, Except.pure]

theorem serverPlain_read (c : Cfg) (t : ServerTicket) (d : Bytes) (hd : serverPlain c t = .ok d) :
    (do let (ts, r) ← rDateTime d
        let (source, r) ← rPid c.pidSize r
        let (sk, _) ← rd c.keySize r
        pure (⟨ts, source, sk⟩ : ServerTicket)) = .ok t := by
  obtain ⟨ts, hts, hd⟩ := bind_ok hd
  obtain ⟨p, hp, hd⟩ := bind_ok hd
  obtain ⟨hks, hd⟩ := of_ite_error hd
  cases hd
  have h1 := rDateTime_wDateTime hts (p ++ t.sessionKey)
  have h2 := rPid_wPid c.pidSize hp t.sessionKey
  have h3 : rd c.keySize t.sessionKey = .ok (t.sessionKey, []) := by
    simpa using rd_append' t.sessionKey [] (Decidable.not_not.mp hks)
  simp only [List.append_assoc, h1, bind, Except.bind, h2, h3, pure, Except.pure]

theorem serverTicket_roundtrip (c : Cfg) (key ticketKey : Bytes) (t : ServerTicket) (b : Bytes)
    (h : ServerTicket.encrypt c key ticketKey t = .ok b) : ServerTicket.decrypt c key b = .ok t := by
  obtain ⟨d, hd, h⟩ := bind_ok h
  have hread := serverPlain_read c t d hd
  unfold ServerTicket.decrypt
  by_cases hv : c.ticketVersion = 1
  · rw [if_pos hv] at h ⊢
    obtain ⟨e, he, h⟩ := bind_ok h
    obtain ⟨a, ha, h⟩ := bind_ok h
    obtain ⟨bb, hbb, h⟩ := bind_ok h
    cases h
    have h2 : rBuffer bb = .ok (e, []) := by simpa using rBuffer_wBuffer hbb []
    simp only [rBuffer_wBuffer ha bb, bind, Except.bind, h2, pure, Except.pure, decrypt_encrypt _ _ _ he]
    exact hread
  · rw [if_neg hv] at h ⊢
    simp only [bind, Except.bind, pure, Except.pure, decrypt_encrypt _ _ _ h]
    exact hread

end Nx.Nex.Kerberos
