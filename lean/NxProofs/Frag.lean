import NxModel.Prudp.Channel
/-! fragmentation and reassembly are inverse: nothing merged, nothing split -/
namespace Nx.Chan

def absorbFrags (r : Reasm) (fs : List Frag) : Reasm := fs.foldl (fun r f => r.absorb f.fragId f.data) r

theorem absorbFrags_append (r : Reasm) (a b : List Frag) :
    absorbFrags r (a ++ b) = absorbFrags (absorbFrags r a) b := by
  simp [absorbFrags, List.foldl_append]

theorem splitAux_absorb (size : Nat) (hs : 1 ≤ size) (fuel : Nat) (data : Bytes) (fid : Nat) (b : Bytes) (out : List Bytes)
    (hlen : data.length < fuel) (hfid : 1 ≤ fid) :
    absorbFrags ⟨b, out⟩ (splitAux size fuel data fid) = if data.isEmpty then ⟨b, out⟩ else ⟨[], out ++ [b ++ data]⟩ := by
  fun_induction splitAux size fuel data fid generalizing b with
  | case1 => omega
  | case2 fuel data fid he => simp [he, absorbFrags]
  | case3 fuel data fid he hle => simp [he, absorbFrags, Reasm.absorb, List.take_of_length_le hle]
  | case4 fuel data fid he hle ih =>
    have hne : (data.drop size).isEmpty = false := List.isEmpty_eq_false_iff.mpr fun hd => by
      have := congrArg List.length hd; simp at this; omega
    have hab : Reasm.absorb ⟨b, out⟩ fid (data.take size) = ⟨b ++ data.take size, out⟩ := by
      simp [Reasm.absorb, show fid ≠ 0 by omega]
    show absorbFrags (Reasm.absorb ⟨b, out⟩ fid (data.take size)) _ = _
    rw [hab, ih (b ++ data.take size) (by simp; omega) (by omega)]
    simp [he, hne, List.append_assoc]

theorem split_absorb (size : Nat) (hs : 1 ≤ size) (m : Bytes) (out : List Bytes) :
    absorbFrags ⟨[], out⟩ (split size m) = if m.isEmpty then ⟨[], out⟩ else ⟨[], out ++ [m]⟩ := by
  unfold split
  rw [splitAux_absorb size hs _ m 1 [] out (by omega) (by omega)]
  simp

theorem splitAux_sizes (size : Nat) (hs : 1 ≤ size) (fuel : Nat) (data : Bytes) (fid : Nat) :
    ∀ f ∈ splitAux size fuel data fid, f.data ≠ [] ∧ f.data.length ≤ size := by
  fun_induction splitAux size fuel data fid with
  | case1 => nofun
  | case2 => nofun
  | case3 fuel data fid he hle =>
    intro f hf
    obtain rfl := List.mem_singleton.mp hf
    have hne : data ≠ [] := fun e => he (by rw [e]; rfl)
    simp [List.take_of_length_le hle, hne, hle]
  | case4 fuel data fid he hle ih =>
    intro f hf
    rcases List.mem_cons.mp hf with rfl | m
    · refine ⟨fun hc => ?_, by simp; omega⟩
      have : (data.take size).length = 0 := by rw [show data.take size = [] from hc]; rfl
      rw [List.length_take] at this; omega
    · exact ih f m

theorem split_sizes (size : Nat) (hs : 1 ≤ size) (m : Bytes) :
    ∀ f ∈ split size m, f.data ≠ [] ∧ f.data.length ≤ size :=
  splitAux_sizes size hs _ m 1

end Nx.Chan
