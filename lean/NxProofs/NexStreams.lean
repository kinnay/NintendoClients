import NxModel.Nex.Streams
import NxModel.Nex.Common
import NxProofs.Bytes
/-! round-trip lemmas for the NEX stream primitives: `r (w x ++ rest) = ok (x, rest)` -/
namespace Nx.Nex

theorem rdU8_wU8 {n : Nat} {b : Bytes} (h : wU8 n = .ok b) (rest : Bytes) : rdU8 (b ++ rest) = .ok (n, rest) := by
  obtain ⟨hn, rfl⟩ := guard_ok h; exact rdU8_u8 n rest hn

theorem rdU16_wU16 {n : Nat} {b : Bytes} (h : wU16 n = .ok b) (rest : Bytes) : rdU16 (b ++ rest) = .ok (n, rest) := by
  obtain ⟨hn, rfl⟩ := guard_ok h; exact rdU16_u16le n rest hn

theorem rdU32_wU32 {n : Nat} {b : Bytes} (h : wU32 n = .ok b) (rest : Bytes) : rdU32 (b ++ rest) = .ok (n, rest) := by
  obtain ⟨hn, rfl⟩ := guard_ok h; exact rdU32_u32le n rest hn

theorem rdU64_wU64 {n : Nat} {b : Bytes} (h : wU64 n = .ok b) (rest : Bytes) : rdU64 (b ++ rest) = .ok (n, rest) := by
  obtain ⟨hn, rfl⟩ := guard_ok h; exact rdU64_u64le n rest hn

theorem wU8_ok_iff (n : Nat) : (∃ b, wU8 n = .ok b) ↔ n < 256 := guard_ok_iff
theorem wU16_ok_iff (n : Nat) : (∃ b, wU16 n = .ok b) ↔ n < 65536 := guard_ok_iff
theorem wU32_ok_iff (n : Nat) : (∃ b, wU32 n = .ok b) ↔ n < 4294967296 := guard_ok_iff
theorem wU64_ok_iff (n : Nat) : (∃ b, wU64 n = .ok b) ↔ n < 18446744073709551616 := guard_ok_iff

/-! two's complement, for every width at once: only `2 ^ bits = 2 * 2 ^ (bits - 1)` matters -/

theorem inS_iff {bits : Nat} {v : Int} :
    inS bits v = true ↔ -((2 ^ (bits - 1) : Nat) : Int) ≤ v ∧ v < ((2 ^ (bits - 1) : Nat) : Int) := by
  simp only [inS, Bool.and_eq_true, decide_eq_true_eq]

theorem toTwos_lt {bits : Nat} (hb : 0 < bits) {v : Int} (h : inS bits v = true) : toTwos bits v < 2 ^ bits := by
  rw [inS_iff] at h
  rw [toTwos, ← Nat.two_pow_pred_mul_two hb]
  split <;> omega

theorem ofTwos_toTwos {bits : Nat} (hb : 0 < bits) {v : Int} (h : inS bits v = true) :
    ofTwos bits (toTwos bits v) = v := by
  rw [inS_iff] at h
  rw [ofTwos, toTwos, ← Nat.two_pow_pred_mul_two hb]
  by_cases hv : v < 0
  · rw [if_pos hv, if_neg (by omega)]; omega
  · rw [if_neg hv, if_pos (by omega)]; omega

/-- the signed integers of every width: `le` / `rdU` are the unsigned writer and reader of that width -/
theorem rS_wS {bits : Nat} (hb : 0 < bits) {le : Nat → Bytes} {rdU : Bytes → Except Err (Nat × Bytes)}
    (hrt : ∀ n r, n < 2 ^ bits → rdU (le n ++ r) = .ok (n, r)) {v : Int} {b : Bytes}
    (h : (if inS bits v then Except.ok (le (toTwos bits v)) else Except.error Err.struct) = Except.ok b) (rest : Bytes) :
    (do let (n, r) ← rdU (b ++ rest); pure (ofTwos bits n, r)) = .ok (v, rest) := by
  obtain ⟨hin, rfl⟩ := guard_ok h
  simp only [hrt _ _ (toTwos_lt hb hin), bind, Except.bind, pure, Except.pure, ofTwos_toTwos hb hin]

theorem rS64_wS64 {v : Int} {b : Bytes} (h : wS64 v = .ok b) (rest : Bytes) : rS64 (b ++ rest) = .ok (v, rest) :=
  rS_wS (bits := 64) (by decide) rdU64_u64le h rest

theorem rBool_wBool {v : Bool} {b : Bytes} (h : wBool v = .ok b) (rest : Bytes) : rBool (b ++ rest) = .ok (v, rest) := by
  cases h; cases v <;> rfl

theorem rDouble_wDouble {v : Nat} {b : Bytes} (h : wDouble v = .ok b) (rest : Bytes) : rDouble (b ++ rest) = .ok (v, rest) :=
  rdU64_wU64 h rest

theorem rDateTime_wDateTime {v : Nat} {b : Bytes} (h : wDateTime v = .ok b) (rest : Bytes) : rDateTime (b ++ rest) = .ok (v, rest) :=
  rdU64_wU64 h rest

theorem rPid_wPid (pidSize : Nat) {v : Nat} {b : Bytes} (h : wPid pidSize v = .ok b) (rest : Bytes) :
    rPid pidSize (b ++ rest) = .ok (v, rest) := by
  unfold wPid at h; unfold rPid
  by_cases h8 : pidSize = 8
  · rw [if_pos h8] at h ⊢; exact rdU64_wU64 h rest
  · rw [if_neg h8] at h ⊢; exact rdU32_wU32 h rest

theorem utf8Dec_utf8Enc (l : List Char) : utf8Dec (utf8Enc l) = some l := by
  have := @List.utf8Decode?_utf8Encode l
  unfold utf8Dec utf8Enc
  unfold List.utf8Encode at this
  rw [this]; simp

theorem utf8Enc_terminated (l : List Char) : utf8Enc (l ++ ['\x00']) = utf8Enc l ++ [0] := by
  simp [utf8Enc, String.utf8EncodeChar]

theorem rString_wString {s : Option String} {b : Bytes} (h : wString s = .ok b) (rest : Bytes) :
    rString (b ++ rest) = .ok (s, rest) := by
  cases s with
  | none =>
    simp only [rString, rdU16_wU16 h rest, bind, Except.bind, if_true, pure, Except.pure]
  | some s =>
    obtain ⟨l, hl, rfl⟩ := bind_pure_ok h
    have hne : ¬ (utf8Enc (s.toList ++ ['\x00'])).length = 0 := by simp [utf8Enc_terminated]
    simp only [rString, List.append_assoc, rdU16_wU16 hl, bind, Except.bind, hne, if_false, rd_append,
      utf8Dec_utf8Enc, pure, Except.pure, List.dropLast_concat, String.ofList_toList]

/-- the exact length condition: the UTF-8 bytes of the string plus the terminator fit a u16 -/
theorem wString_ok_iff (s : String) : (∃ b, wString (some s) = .ok b) ↔ (utf8Enc s.toList).length ≤ 65534 := by
  have hlen : (utf8Enc (s.toList ++ ['\x00'])).length = (utf8Enc s.toList).length + 1 := by
    simp [utf8Enc_terminated]
  constructor
  · rintro ⟨b, h⟩
    obtain ⟨l, hl, _⟩ := bind_pure_ok h
    have := (guard_ok hl).1
    omega
  · intro h
    have hl : (utf8Enc (s.toList ++ ['\x00'])).length < 65536 := by omega
    exact ⟨_, by simp only [wString, wU16, if_pos hl]; rfl⟩

theorem rBuffer_wBuffer {d b : Bytes} (h : wBuffer d = .ok b) (rest : Bytes) : rBuffer (b ++ rest) = .ok (d, rest) := by
  obtain ⟨l, hl, rfl⟩ := bind_pure_ok h
  simp only [rBuffer, List.append_assoc, rdU32_wU32 hl, bind, Except.bind, rd_append]

theorem wBuffer_eq_ok {d b : Bytes} : wBuffer d = .ok b ↔ d.length < 4294967296 ∧ b = u32le d.length ++ d := by
  constructor
  · intro h
    obtain ⟨l, hl, rfl⟩ := bind_pure_ok (f := (· ++ d)) h
    obtain ⟨hlt, rfl⟩ := guard_ok hl
    exact ⟨hlt, rfl⟩
  · rintro ⟨h, rfl⟩; simp only [wBuffer, wU32, if_pos h]; rfl

/-- items written one after the other are read back one after the other. `W`/`R` are any writer and reader of lists that
unfold the way the model's sequencing functions do, with `w`/`r` per item; for those the four equations hold by `rfl`
(the reader's with projections in place of its pattern, which is why it is stated so). -/
theorem seq_rt {ι β : Type} {W : List ι → Except Err Bytes} {R : List ι → Bytes → Except Err (List β × Bytes)}
    {w : ι → Except Err Bytes} {r : ι → Bytes → Except Err (β × Bytes)} {y : ι → β}
    (hW0 : W [] = .ok []) (hW : ∀ x xs, W (x :: xs) = do let a ← w x; let t ← W xs; pure (a ++ t))
    (hR0 : ∀ b, R [] b = .ok ([], b))
    (hR : ∀ x xs b, R (x :: xs) b = do let p ← r x b; let q ← R xs p.2; pure (p.1 :: q.1, q.2))
    (l : List ι) (hrt : ∀ x ∈ l, ∀ b rest, w x = .ok b → r x (b ++ rest) = .ok (y x, rest)) :
    ∀ b rest, W l = .ok b → R l (b ++ rest) = .ok (l.map y, rest) := by
  induction l with
  | nil => intro b rest h; rw [hW0] at h; cases h; exact hR0 rest
  | cons x xs ih =>
    intro b rest h
    rw [hW] at h
    obtain ⟨a, ha, h⟩ := bind_ok h
    obtain ⟨t, ht, rfl⟩ := bind_pure_ok h
    rw [hR, List.append_assoc, hrt x List.mem_cons_self a (t ++ rest) ha]
    simp only [bind, Except.bind, ih (fun z hz => hrt z (List.mem_cons_of_mem _ hz)) t rest ht, pure, Except.pure,
      List.map_cons]

theorem rRepeat_wRepeat {α : Type} (f : α → Except Err Bytes) (rdr : Bytes → Except Err (α × Bytes)) (l : List α)
    (hrt : ∀ x ∈ l, ∀ b rest, f x = .ok b → rdr (b ++ rest) = .ok (x, rest)) :
    ∀ b rest, wRepeat f l = .ok b → rRepeat rdr l.length (b ++ rest) = .ok (l, rest) := by
  have := seq_rt (W := wRepeat f) (R := fun l => rRepeat rdr l.length) (r := fun _ => rdr) (y := id)
    rfl (fun _ _ => rfl) (fun _ => rfl) (fun _ _ _ => rfl) l hrt
  rwa [List.map_id] at this

/-- what a reader makes of ANY written map: the dict built by storing the items in order (a repeated key keeps its first
position and the last value) -/
theorem rMapItems_wMapItems {κ ν : Type} [BEq κ]
    (kf : κ → Except Err Bytes) (vf : ν → Except Err Bytes)
    (rk : Bytes → Except Err (κ × Bytes)) (rv : Bytes → Except Err (ν × Bytes)) (m : List (κ × ν))
    (hk : ∀ e ∈ m, ∀ b rest, kf e.1 = .ok b → rk (b ++ rest) = .ok (e.1, rest))
    (hv : ∀ e ∈ m, ∀ b rest, vf e.2 = .ok b → rv (b ++ rest) = .ok (e.2, rest)) :
    ∀ (acc : List (κ × ν)) b rest, wMapItems kf vf m = .ok b →
      rMapItems rk rv m.length acc (b ++ rest) = .ok (m.foldl (fun d e => dictInsert e.1 e.2 d) acc, rest) := by
  induction m with
  | nil => intro acc b rest h; cases h; rfl
  | cons e r ih =>
    intro acc b rest h
    obtain ⟨k, v⟩ := e
    obtain ⟨a, ha, h⟩ := bind_ok h
    obtain ⟨c, hc, h⟩ := bind_ok h
    obtain ⟨t, ht, rfl⟩ := bind_pure_ok h
    have h1 := hk (k, v) (by simp) a (c ++ (t ++ rest)) ha
    have h2 := hv (k, v) (by simp) c (t ++ rest) hc
    have h3 := ih (fun e he => hk e (by simp [he])) (fun e he => hv e (by simp [he])) (dictInsert k v acc) t rest ht
    simp only [List.length_cons, rMapItems, List.append_assoc, h1, bind, Except.bind, h2, h3, List.foldl_cons]

theorem rMap_wMap_dict {κ ν : Type} [BEq κ]
    (kf : κ → Except Err Bytes) (vf : ν → Except Err Bytes)
    (rk : Bytes → Except Err (κ × Bytes)) (rv : Bytes → Except Err (ν × Bytes)) (m : List (κ × ν))
    (hk : ∀ e ∈ m, ∀ b rest, kf e.1 = .ok b → rk (b ++ rest) = .ok (e.1, rest))
    (hv : ∀ e ∈ m, ∀ b rest, vf e.2 = .ok b → rv (b ++ rest) = .ok (e.2, rest))
    {b : Bytes} (h : wMap kf vf m = .ok b) (rest : Bytes) :
    rMap rk rv (b ++ rest) = .ok (m.foldl (fun d e => dictInsert e.1 e.2 d) [], rest) := by
  obtain ⟨n, hn, h⟩ := bind_ok h
  obtain ⟨r, hr, rfl⟩ := bind_pure_ok h
  simp only [rMap, List.append_assoc, rdU32_wU32 hn, bind, Except.bind]
  exact rMapItems_wMapItems kf vf rk rv m hk hv [] r rest hr

theorem rVariant_wVariant {v : Variant} {b : Bytes} (h : wVariant v = .ok b) (rest : Bytes) :
    rVariant (b ++ rest) = .ok (v, rest) := by
  -- the tag is a literal byte: `simp` evaluates the reader's dispatch on it, then the payload's own round trip applies
  cases v with
  | none => cases h; rfl
  | bool x =>
    obtain ⟨r, hr, rfl⟩ := bind_pure_ok h
    simp [rVariant, rdU8, u8, b8, bind, Except.bind, pure, Except.pure, rBool_wBool hr rest]
  | int x =>
    by_cases hneg : x < 0
    · rw [wVariant, if_pos hneg] at h
      obtain ⟨r, hr, rfl⟩ := bind_pure_ok h
      simp [rVariant, rdU8, u8, b8, bind, Except.bind, pure, Except.pure, rS64_wS64 hr rest]
    · rw [wVariant, if_neg hneg] at h
      obtain ⟨r, hr, rfl⟩ := bind_pure_ok h
      simp [rVariant, rdU8, u8, b8, bind, Except.bind, pure, Except.pure, rdU64_wU64 hr rest,
        Int.toNat_of_nonneg (Int.not_lt.mp hneg)]
  | double x =>
    obtain ⟨r, hr, rfl⟩ := bind_pure_ok h
    simp [rVariant, rdU8, u8, b8, bind, Except.bind, pure, Except.pure, rDouble_wDouble hr rest]
  | str x =>
    obtain ⟨r, hr, rfl⟩ := bind_pure_ok h
    simp [rVariant, rdU8, u8, b8, bind, Except.bind, pure, Except.pure, rString_wString hr rest]
  | datetime x =>
    obtain ⟨r, hr, rfl⟩ := bind_pure_ok h
    simp [rVariant, rdU8, u8, b8, bind, Except.bind, pure, Except.pure, rDateTime_wDateTime hr rest]

theorem rAnyData_wAnyData {name : Option String} {payload b : Bytes} (h : wAnyData name payload = .ok b) (rest : Bytes) :
    rAnyData (b ++ rest) = .ok ((name, payload), rest) := by
  obtain ⟨n, hn, h⟩ := bind_ok h
  obtain ⟨l, hl, h⟩ := bind_ok h
  obtain ⟨p, hp, rfl⟩ := bind_pure_ok h
  obtain ⟨hlt, rfl⟩ := guard_ok hl
  -- the outer buffer is the inner buffer `p` behind its own length, which is `len + 4`
  have hplen : p.length = payload.length + 4 := by
    rw [(wBuffer_eq_ok.mp hp).2, List.length_append, u32le_length, Nat.add_comm]
  have houter : wBuffer p = .ok (u32le (payload.length + 4) ++ p) := wBuffer_eq_ok.mpr ⟨hplen ▸ hlt, hplen ▸ rfl⟩
  have h1 := rString_wString hn (u32le (payload.length + 4) ++ (p ++ rest))
  have h2 := rBuffer_wBuffer houter rest
  have h3 := rBuffer_wBuffer hp []
  rw [List.append_assoc] at h2
  rw [List.append_nil] at h3
  simp only [rAnyData, List.append_assoc, h1, bind, Except.bind, h2, h3, pure, Except.pure]

theorem rStructLevel_wStructLevel {α : Type} (header : Bool) (version : Nat) (body : Bytes)
    (load : Nat → Bytes → Except Err (α × Bytes)) (x : α)
    (hload : ∀ rest, load (if header then version else 0) (body ++ rest) = .ok (x, rest))
    {b : Bytes} (h : wStructLevel header version body = .ok b) (rest : Bytes) :
    rStructLevel header load (b ++ rest) = .ok (x, rest) := by
  cases header with
  | false => cases h; exact hload rest
  | true =>
    obtain ⟨v, hv, h⟩ := bind_ok h
    obtain ⟨bb, hb, rfl⟩ := bind_pure_ok h
    have h3 := hload []
    simp only [if_true, List.append_nil] at h3
    simp only [rStructLevel, if_true, List.append_assoc, rdU8_wU8 hv, bind, Except.bind, rBuffer_wBuffer hb, h3, pure,
      Except.pure]

end Nx.Nex
