import NxProofs.Sys
/-!
# C01 — both directions of one connection at once

`Sys` follows ONE direction of a connection and treats what the two endpoints do for the other direction as frame steps. `Duplex`
holds the connection twice — `ab` (A sends) and `ba` (B sends) — with `Same`: the two views hold THE SAME two endpoints. Every
duplex step (`DOp`) is one `Sys` step in each view, the main step in one and a frame step in the other (`DOp.inAB`, `DOp.inBA`);
`same_step`: the views stay the same pair of endpoints; `duplex_refines`: both stay coupled to their L2 channels — so the `good_*`
theorems hold in both directions at once, for every interleaving of what both ends and the network do.
-/
namespace Nx.L1
open Nx.Prudp Nx.Chan

structure Duplex where
  ab : Sys      -- A sends, B receives: `ab.a` is endpoint A, `ab.b` is endpoint B
  ba : Sys      -- B sends, A receives: `ba.a` is endpoint B, `ba.b` is endpoint A

/-- the two views hold the same two endpoints -/
structure Duplex.Same (d : Duplex) : Prop where
  a : d.ab.a = d.ba.b
  b : d.ab.b = d.ba.a

inductive DOp where
  | sendA (now : Time) (data : Bytes)     -- A's application: `send(data, sub)` as one step (waits while another send of A holds the lock)
  | sendB (now : Time) (data : Bytes)
  | beginA (now : Time) (data : Bytes)    -- the same call fragment by fragment: state check, lock, split …
  | beginB (now : Time) (data : Bytes)
  | fragA (now : Time)                    -- … and one turn of its loop; anything of either end may happen between two turns
  | fragB (now : Time)
  | pingA (now : Time)                    -- A's keep-alive timer
  | pingB (now : Time)
  | toB (now : Time) (j : Nat)            -- the network hands B a copy of the j-th packet A ever emitted (any order, any number of times)
  | toA (now : Time) (j : Nat)
  | ackToA (now : Time) (p : Packet)      -- any acknowledgement (of non-handshake traffic) arrives at A
  | ackToB (now : Time) (p : Packet)
  | resendA (now : Time) (p : Packet) (k : Nat)   -- a retransmission timer of A fires
  | resendB (now : Time) (p : Packet) (k : Nat)
  | injectA (now : Time) (p : Packet)     -- ANY packet whose signature is not the one A expects arrives at A (forged, corrupted, stray)
  | injectB (now : Time) (p : Packet)
  | disconnectA (now : Time)              -- A's application: graceful `disconnect()`
  | disconnectB (now : Time)
  | sendAOther (now : Time) (data : Bytes) (s' : Nat)   -- A's application sends on ANOTHER substream
  | sendBOther (now : Time) (data : Bytes) (s' : Nat)
  | toBOther (now : Time) (p : Packet)     -- an ordinary packet of ANOTHER substream arrives at B (any such packet, genuine or not)
  | toAOther (now : Time) (p : Packet)

/-- the step as seen in direction A→B -/
def DOp.inAB (sub : Nat) (d : Duplex) : DOp → Option SysOp
  | .sendA now data => some (.send now data)
  | .sendB now data => if d.ba.pend.isEmpty then some (.bSend now data sub) else none
  | .beginA now data => some (.begin now data)
  | .beginB _ _ => none
  | .fragA now => some (.frag now)
  | .fragB now => (d.ba.pend.head?).map (fun f => .bFrag now f)
  | .pingA now => some (.ping now)
  | .pingB now => some (.bPing now)
  | .toB now j => some (.deliverH now j)
  | .toA now j => (d.ba.net[j]?).map (fun p => .aRecv now p)
  | .ackToA now p => some (.ackIn now p)
  | .ackToB now p => some (.bAckIn now p)
  | .resendA now p k => some (.fireResend now p k)
  | .resendB now p k => some (.bFireResend now p k)
  | .injectA now p => some (.aInject now p)
  | .injectB now p => some (.inject now p)
  | .disconnectA now => some (.disconnect now)
  | .disconnectB now => some (.bDisconnect now)
  | .sendAOther now data s' => some (.aSendOther now data s')
  | .sendBOther now data s' => some (.bSend now data s')
  | .toBOther now p => some (.bRecvOther now p)
  | .toAOther now p => some (.aRecv now p)

/-- the step as seen in direction B→A -/
def DOp.inBA (sub : Nat) (d : Duplex) : DOp → Option SysOp
  | .sendA now data => if d.ab.pend.isEmpty then some (.bSend now data sub) else none
  | .sendB now data => some (.send now data)
  | .beginA _ _ => none
  | .beginB now data => some (.begin now data)
  | .fragA now => (d.ab.pend.head?).map (fun f => .bFrag now f)
  | .fragB now => some (.frag now)
  | .pingA now => some (.bPing now)
  | .pingB now => some (.ping now)
  | .toB now j => (d.ab.net[j]?).map (fun p => .aRecv now p)
  | .toA now j => some (.deliverH now j)
  | .ackToA now p => some (.bAckIn now p)
  | .ackToB now p => some (.ackIn now p)
  | .resendA now p k => some (.bFireResend now p k)
  | .resendB now p k => some (.fireResend now p k)
  | .injectA now p => some (.inject now p)
  | .injectB now p => some (.aInject now p)
  | .disconnectA now => some (.bDisconnect now)
  | .disconnectB now => some (.disconnect now)
  | .sendAOther now data s' => some (.bSend now data s')
  | .sendBOther now data s' => some (.aSendOther now data s')
  | .toBOther now p => some (.aRecv now p)
  | .toAOther now p => some (.bRecvOther now p)

def Sys.stepO (env : Env) (sub : Nat) (s : Sys) : Option SysOp → Sys
  | none => s
  | some o => s.step env sub o

def Sys.opOkO (env : Env) (sub : Nat) (s : Sys) : Option SysOp → Bool
  | none => true
  | some o => s.opOk env sub o

def Sys.absOpO (env : Env) (sub : Nat) (s : Sys) : Option SysOp → Option Op
  | none => none
  | some o => s.absOp env sub o

def Duplex.step (env : Env) (sub : Nat) (d : Duplex) (op : DOp) : Duplex :=
  { ab := d.ab.stepO env sub (op.inAB sub d), ba := d.ba.stepO env sub (op.inBA sub d) }

/-- the step hypotheses of both views (sends complete on a live link; deliveries within half the id space of the receiver's
    release point; acknowledgements are acknowledgements of non-handshake, non-DISCONNECT traffic; a retransmission timer
    holds a packet its endpoint emitted and fires within the budget on a live link) -/
def Duplex.opOk (env : Env) (sub : Nat) (d : Duplex) (op : DOp) : Bool :=
  d.ab.opOkO env sub (op.inAB sub d) && d.ba.opOkO env sub (op.inBA sub d)

def Duplex.run (env : Env) (sub : Nat) (d : Duplex) (ops : List DOp) : Duplex := ops.foldl (Duplex.step env sub) d

def Duplex.runOk (env : Env) (sub : Nat) : Duplex → List DOp → Bool
  | _, [] => true
  | d, op :: ops => d.opOk env sub op && Duplex.runOk env sub (d.step env sub op) ops

theorem good_stepO (env : Env) (hl : EnvLaws env) (sub : Nat) (ci : Cipher) (size : Nat) (hsz : 1 ≤ size) (start : Nat)
    (s : Sys) (ch : Chan) (o : Option SysOp) (h : Good env sub ci size start s ch) (hok : s.opOkO env sub o = true) :
    Good env sub ci size start (s.stepO env sub o) (stepOpt (wrap env ci) size ch (s.absOpO env sub o)) ∧
    Chan.runOk (wrap env ci) size ch (s.absOpO env sub o).toList = true := by
  cases o with
  | none => exact ⟨h, rfl⟩
  | some op => exact good_step env hl sub ci size hsz start s ch op h hok

/-- once the two views are written over the same two endpoints, both compute the same terms -/
theorem same_step (env : Env) (sub : Nat) (d : Duplex) (op : DOp) (h : d.Same) : (d.step env sub op).Same := by
  obtain ⟨⟨a, b, netA, accA, nrelA, pendA, cleanA⟩, ⟨b', a', netB, accB, nrelB, pendB, cleanB⟩⟩ := d
  obtain ⟨ha, hb⟩ := h
  cases ha; cases hb
  cases op with
  | sendA now data => cases pendA <;> exact ⟨rfl, rfl⟩
  | sendB now data => cases pendB <;> exact ⟨rfl, rfl⟩
  | beginA now data => simp only [Duplex.step, DOp.inAB, DOp.inBA, Sys.stepO, Sys.step]; split <;> exact ⟨rfl, rfl⟩
  | beginB now data => simp only [Duplex.step, DOp.inAB, DOp.inBA, Sys.stepO, Sys.step]; split <;> exact ⟨rfl, rfl⟩
  | fragA now => cases pendA <;> exact ⟨rfl, rfl⟩
  | fragB now => cases pendB <;> exact ⟨rfl, rfl⟩
  | toB now j =>
    simp only [Duplex.step, DOp.inAB, DOp.inBA, Sys.stepO, Sys.step]
    generalize netA[j]? = o
    cases o <;> exact ⟨rfl, rfl⟩
  | toA now j =>
    simp only [Duplex.step, DOp.inAB, DOp.inBA, Sys.stepO, Sys.step]
    generalize netB[j]? = o
    cases o <;> exact ⟨rfl, rfl⟩
  | disconnectA now =>
    simp only [Duplex.step, DOp.inAB, DOp.inBA, Sys.stepO, Sys.step]
    by_cases hst : a.state ≠ STATE_CONNECTED
    · rw [if_pos hst, disconnect_noop env now a hst]; exact ⟨rfl, rfl⟩
    · rw [if_neg hst]; exact ⟨rfl, rfl⟩
  | disconnectB now =>
    simp only [Duplex.step, DOp.inAB, DOp.inBA, Sys.stepO, Sys.step]
    by_cases hst : b.state ≠ STATE_CONNECTED
    · rw [if_pos hst, disconnect_noop env now b hst]; exact ⟨rfl, rfl⟩
    · rw [if_neg hst]; exact ⟨rfl, rfl⟩
  | _ => exact ⟨rfl, rfl⟩

/-- both directions coupled to their channels, over the same two endpoints -/
structure DGood (env : Env) (sub : Nat) (ciA ciB : Cipher) (sizeA sizeB startA startB : Nat) (d : Duplex) (chAB chBA : Chan) : Prop where
  ab : Good env sub ciA sizeA startA d.ab chAB
  ba : Good env sub ciB sizeB startB d.ba chBA
  same : d.Same

/-- the two channel runs a duplex run amounts to -/
def Duplex.chans (env : Env) (sub : Nat) (ciA ciB : Cipher) (sizeA sizeB : Nat) : Duplex → Chan → Chan → List DOp → Chan × Chan
  | _, x, y, [] => (x, y)
  | d, x, y, op :: ops =>
    Duplex.chans env sub ciA ciB sizeA sizeB (d.step env sub op)
      (stepOpt (wrap env ciA) sizeA x (d.ab.absOpO env sub (op.inAB sub d)))
      (stepOpt (wrap env ciB) sizeB y (d.ba.absOpO env sub (op.inBA sub d))) ops

theorem aRecv_ok (env : Env) (sub : Nat) (s' : Sys) (now : Time) {net : List Packet} (hord : ∀ p ∈ net, Ordinary p) (j : Nat) :
    s'.opOkO env sub ((net[j]?).map (fun p => .aRecv now p)) = true := by
  cases hj : net[j]? with
  | none => rfl
  | some p => exact (ordinaryB_iff p).mpr (hord p (List.mem_of_getElem? hj))

theorem toA_ok {env : Env} {sub : Nat} {ci : Cipher} {size start : Nat} {d : Duplex} {ch : Chan} (now : Time) (j : Nat)
    (h : Good env sub ci size start d.ba ch) : d.opOk env sub (.toA now j) = d.ba.opOk env sub (.deliverH now j) := by
  show (d.ab.opOkO env sub ((d.ba.net[j]?).map fun p => .aRecv now p) && d.ba.opOk env sub (.deliverH now j)) = _
  rw [aRecv_ok env sub d.ab now h.cpl.netord j, Bool.true_and]

/-- **the hypotheses hold after a handshake**: two endpoints that are `Established` in both directions, with nothing on the
    wire yet, are coupled in both directions -/
theorem duplex_established (env : Env) (sub startA startB : Nat) (a b : Conn)
    (hab : Established sub startA a b) (hba : Established sub startB b a) :
    DGood env sub (cipherOf a sub) (cipherOf b sub) a.fragmentSize b.fragmentSize startA startB
      { ab := Sys.fresh a b, ba := Sys.fresh b a } (Chan.init startA) (Chan.init startB) :=
  ⟨good_of_established sub startA a b hab, good_of_established sub startB b a hba, ⟨rfl, rfl⟩⟩

/-- the channel run of direction A→B as a list of channel operations (the liveness theorem speaks of `arrived` along it) -/
def Duplex.absAB (env : Env) (sub : Nat) : Duplex → List DOp → List Op
  | _, [] => []
  | d, op :: ops => (d.ab.absOpO env sub (op.inAB sub d)).toList ++ Duplex.absAB env sub (d.step env sub op) ops

def Duplex.absBA (env : Env) (sub : Nat) : Duplex → List DOp → List Op
  | _, [] => []
  | d, op :: ops => (d.ba.absOpO env sub (op.inBA sub d)).toList ++ Duplex.absBA env sub (d.step env sub op) ops

theorem chans_eq_runs (env : Env) (sub : Nat) (ciA ciB : Cipher) (sizeA sizeB : Nat) : ∀ (ops : List DOp) (d : Duplex) (x y : Chan),
    Duplex.chans env sub ciA ciB sizeA sizeB d x y ops =
      (Chan.run (wrap env ciA) sizeA x (Duplex.absAB env sub d ops), Chan.run (wrap env ciB) sizeB y (Duplex.absBA env sub d ops)) := by
  intro ops
  induction ops with
  | nil => intro d x y; rfl
  | cons op ops ih =>
    intro d x y
    simp only [Duplex.chans, Duplex.absAB, Duplex.absBA]
    rw [ih, run_append, run_append, run_toList, run_toList]

/-- **every run of the duplex system is, in each direction, a run of the L2 channel** within the half-window hypothesis, and both
    directions are coupled to their channels at its end -/
theorem duplex_refines (env : Env) (hl : EnvLaws env) (sub : Nat) (ciA ciB : Cipher) (sizeA sizeB : Nat) (hA : 1 ≤ sizeA) (hB : 1 ≤ sizeB)
    (startA startB : Nat) : ∀ (ops : List DOp) (d : Duplex) (chAB chBA : Chan),
    DGood env sub ciA ciB sizeA sizeB startA startB d chAB chBA → Duplex.runOk env sub d ops = true →
    DGood env sub ciA ciB sizeA sizeB startA startB (Duplex.run env sub d ops)
      (Chan.run (wrap env ciA) sizeA chAB (Duplex.absAB env sub d ops)) (Chan.run (wrap env ciB) sizeB chBA (Duplex.absBA env sub d ops)) ∧
    Chan.runOk (wrap env ciA) sizeA chAB (Duplex.absAB env sub d ops) = true ∧
    Chan.runOk (wrap env ciB) sizeB chBA (Duplex.absBA env sub d ops) = true := by
  intro ops
  induction ops with
  | nil => intro d x y h _; exact ⟨h, rfl, rfl⟩
  | cons op ops ih =>
    intro d x y h hok
    simp only [Duplex.runOk, Duplex.opOk, Bool.and_eq_true] at hok
    have g1 := good_stepO env hl sub ciA sizeA hA startA d.ab x _ h.ab hok.1.1
    have g2 := good_stepO env hl sub ciB sizeB hB startB d.ba y _ h.ba hok.1.2
    have := ih _ _ _ ⟨g1.1, g2.1, same_step env sub d op h.same⟩ hok.2
    simp only [Duplex.absAB, Duplex.absBA, Duplex.run, List.foldl_cons]
    rw [run_append, run_append, runOk_append, runOk_append, run_toList, run_toList, g1.2, g2.2]
    exact this

theorem duplex_run (env : Env) (hl : EnvLaws env) (sub : Nat) (ciA ciB : Cipher) (sizeA sizeB : Nat) (hA : 1 ≤ sizeA) (hB : 1 ≤ sizeB)
    (startA startB : Nat) : ∀ (ops : List DOp) (d : Duplex) (chAB chBA : Chan),
    DGood env sub ciA ciB sizeA sizeB startA startB d chAB chBA → Duplex.runOk env sub d ops = true →
    DGood env sub ciA ciB sizeA sizeB startA startB (Duplex.run env sub d ops)
      (Duplex.chans env sub ciA ciB sizeA sizeB d chAB chBA ops).1 (Duplex.chans env sub ciA ciB sizeA sizeB d chAB chBA ops).2 := by
  intro ops d x y h hok
  rw [chans_eq_runs]
  exact (duplex_refines env hl sub ciA ciB sizeA sizeB hA hB startA startB ops d x y h hok).1

end Nx.L1
