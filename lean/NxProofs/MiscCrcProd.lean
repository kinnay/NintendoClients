import NxProofs.MiscCrc
/-!
# The calibration-data checksum: the library's nibble-table routine IS the bit-serial CRC-16/ARC, for every input

`nintendo.switch.crc16` processes each byte as two 4-bit steps through a 16-entry table, xoring the table entries of the
register's low nibble and of the data nibble separately. The textbook definition (`refCrc16Arc`: reflected polynomial
0xA001, one bit at a time) is written independently in `NxModel/Crypto/Crc16.lean`. They agree on every byte string and
every start value: the bit step is GF(2)-linear, the table holds the four-step images of the 16 nibbles, and four steps of
`x = (x >>> 4 <<< 4) ^^^ (x &&& 15)` are `(x >>> 4) ^^^ table[x &&& 15]`.
-/
namespace Nx.Crypto

theorem refBit_eq (h : Nat) : refBit h = (h >>> 1) ^^^ (if h.testBit 0 then 0xA001 else 0) := by
  unfold refBit
  rw [Nat.shiftRight_eq_div_pow]
  by_cases hh : h % 2 = 1
  · simp [hh]
  · simp [hh]

theorem refBit_xor (a b : Nat) : refBit (a ^^^ b) = refBit a ^^^ refBit b := by
  simp only [refBit_eq]
  exact xor_feedback (· >>> 1) (fun _ _ => Nat.shiftRight_xor_distrib) ..

def refBit4 (h : Nat) : Nat := refBit (refBit (refBit (refBit h)))

theorem refBit4_xor (a b : Nat) : refBit4 (a ^^^ b) = refBit4 a ^^^ refBit4 b := by
  simp only [refBit4, refBit_xor]

theorem refBit_double (z : Nat) : refBit (2 * z) = z := by
  simp [refBit]

theorem refBit4_shl4 (y : Nat) : refBit4 (y <<< 4) = y := by
  have : y <<< 4 = 2 * (2 * (2 * (2 * y))) := by rw [Nat.shiftLeft_eq]; omega
  rw [this]; simp only [refBit4, refBit_double]

theorem split_nibble (h : Nat) : (h >>> 4 <<< 4) ^^^ (h &&& 15) = h := by
  rw [show (15 : Nat) = 2 ^ 4 - 1 from rfl, Nat.and_two_pow_sub_one_eq_mod,
    shiftLeft_xor_of_lt _ (Nat.mod_lt _ (by decide)), Nat.shiftRight_eq_div_pow]
  omega

theorem prodTable_eq : ∀ x < 16, prodTable[x]! = refBit4 x := by decide +kernel

theorem refBit4_split (h : Nat) : refBit4 h = (h >>> 4) ^^^ prodTable[h &&& 15]! := by
  have hlt : h &&& 15 < 16 := Nat.lt_of_le_of_lt Nat.and_le_right (by decide)
  conv => lhs; rw [← split_nibble h]
  rw [refBit4_xor, refBit4_shl4, prodTable_eq _ hlt]

/-- one nibble step of the library's routine is four bit steps on `register xor nibble` -/
theorem nibble_step (h n : Nat) (hn : n < 16) :
    (h >>> 4) ^^^ prodTable[h &&& 0xF]! ^^^ prodTable[n]! = refBit4 (h ^^^ n) := by
  rw [refBit4_xor, refBit4_split h, prodTable_eq n hn]

theorem prodStep_eq_refByte (h : Nat) (b : UInt8) : prodStep h b = refByte h b := by
  have hlo : b.toNat &&& 0xF < 16 := Nat.lt_of_le_of_lt Nat.and_le_right (by decide)
  have hhi : b.toNat >>> 4 < 16 := by
    have := b.toNat_lt
    omega
  unfold prodStep refByte
  simp only []
  rw [nibble_step h _ hlo, nibble_step _ _ hhi]
  have hb : h ^^^ b.toNat = (h ^^^ (b.toNat &&& 0xF)) ^^^ ((b.toNat >>> 4) <<< 4) := by
    conv => lhs; rw [← split_nibble b.toNat]
    ac_rfl
  rw [hb]
  show _ = refBit4 (refBit4 _)  -- the eight bit steps of `refByte`, four and four
  rw [refBit4_xor (h ^^^ (b.toNat &&& 0xF)), refBit4_shl4]

theorem prodCrc16_eq_ref (d : Bytes) : prodCrc16 d = refCrc16Arc 0x55AA d :=
  congrArg (List.foldl · 0x55AA d) (funext fun h => funext (prodStep_eq_refByte h))

end Nx.Crypto
