import NxModel.Switch.All
import NxModel.Switch.Checks
import NxModel.Switch.Errors
/-!
# C18 — Switch clients: the row of a version, and what a request shape may depend on

`requestsAt_shape` = equal key sets give a supported version a row in all nine tables (`KeysAgree.rowAt`) + on such a version
`set_system_version` is a record update from that row (`*_setVersion_known`) + call shapes read the state only through
`version < 1500 / 1800 / 1900`, the API number (dauth, aauth; `eraConstant`) and whether dragons has a nim user agent
(`*_call_shape_congr`), glued by `runAt_shape`. After it, what the other clauses of C18 read: the form fields and the user agent of the
five calls, the exact validation of `send_invitation` and the digital certificate, and the error mapping (no classifier ends in success once
the key is present: `classify*_key`).
-/
namespace Nx.Switch
open Nx.Http

theorem dictGet_isSome_iff {α : Type} (d : Dict α) (k : Nat) : (dictGet d k).isSome = dictHas d k := by
  unfold dictHas
  fun_induction dictGet d k with
  | case1 => rfl
  | case2 k' v r x hx ih => rw [List.any_cons, ← ih, hx]; simp
  | case3 v r hx ih => simp
  | case4 k' v r hx hk ih => rw [List.any_cons, ← ih, hx]; simp [hk]

theorem dictGet_some_of_has {α : Type} {d : Dict α} {k : Nat} (h : dictHas d k = true) : ∃ x, dictGet d k = some x := by
  rw [← dictGet_isSome_iff] at h
  exact Option.isSome_iff_exists.mp h

theorem dictGet_mem {α : Type} {d : Dict α} {k : Nat} {x : α} (h : dictGet d k = some x) : (k, x) ∈ d := by
  fun_induction dictGet d k with
  | case1 => cases h
  | case2 k' v r y hy ih => cases h; exact List.mem_cons_of_mem _ (ih hy)
  | case3 v r hy => cases h; exact List.mem_cons_self
  | case4 => cases h

theorem dictHas_iff_mem {α : Type} (d : Dict α) (k : Nat) : dictHas d k = true ↔ k ∈ keysOf d := by
  simp [dictHas, keysOf]

theorem dictHas_of_sameSets {α β : Type} {d : Dict α} {e : Dict β}
    (h : subset (keysOf d) (keysOf e) = true ∧ subset (keysOf e) (keysOf d) = true) (v : Nat) : dictHas d v = dictHas e v := by
  simp only [subset, List.all_eq_true, List.contains_iff_mem] at h
  rw [Bool.eq_iff_iff, dictHas_iff_mem, dictHas_iff_mem]
  exact ⟨h.1 v, h.2 v⟩

/-- what equal key sets give: membership of a version is the same in every table -/
structure KeysAgree (T : Tables) : Prop where
  dauthUA : ∀ v, dictHas T.dauthUA v = dictHas T.fw v
  digest : ∀ v, dictHas T.digest v = dictHas T.fw v
  keygen : ∀ v, dictHas T.keygen v = dictHas T.fw v
  dauthApi : ∀ v, dictHas T.dauthApi v = dictHas T.fw v
  aauthUA : ∀ v, dictHas T.aauthUA v = dictHas T.fw v
  aauthApi : ∀ v, dictHas T.aauthApi v = dictHas T.fw v
  baasUA : ∀ v, dictHas T.baasUA v = dictHas T.fw v
  fiveUA : ∀ v, dictHas T.fiveUA v = dictHas T.fw v

/-- lifting lemma of the generated obligation `same_key_sets` -/
theorem keysAgree_of_sameSets (T : Tables) (h : T.keys.sameSets = true) : KeysAgree T := by
  simp only [Keys.sameSets, Keys.all, List.all_cons, List.all_nil, Bool.and_true, Bool.and_eq_true, Tables.keys] at h
  obtain ⟨_, h1, h2, h3, h4, h5, h6, h7, h8⟩ := h
  exact ⟨dictHas_of_sameSets h1, dictHas_of_sameSets h2, dictHas_of_sameSets h3, dictHas_of_sameSets h4, dictHas_of_sameSets h5,
    dictHas_of_sameSets h6, dictHas_of_sameSets h7, dictHas_of_sameSets h8⟩

theorem dictGet_of_agree {α : Type} {d : Dict α} {T : Tables} {v : Nat} (hk : ∀ v, dictHas d v = dictHas T.fw v)
    (h : dictHas T.fw v = true) : ∃ x, dictGet d v = some x :=
  dictGet_some_of_has (by rw [hk, h])

/-- what the nine tables hold for one version -/
structure Row where
  (fw dauthUA digest : String) (keygen dauthApi : Nat) (aauthUA : String) (aauthApi : Nat) (baasUA fiveUA : String)

structure Tables.RowAt (T : Tables) (v : Nat) (r : Row) : Prop where
  fw : dictGet T.fw v = some r.fw
  dauthUA : dictGet T.dauthUA v = some r.dauthUA
  digest : dictGet T.digest v = some r.digest
  keygen : dictGet T.keygen v = some r.keygen
  dauthApi : dictGet T.dauthApi v = some r.dauthApi
  aauthUA : dictGet T.aauthUA v = some r.aauthUA
  aauthApi : dictGet T.aauthApi v = some r.aauthApi
  baasUA : dictGet T.baasUA v = some r.baasUA
  fiveUA : dictGet T.fiveUA v = some r.fiveUA

theorem KeysAgree.rowAt {T : Tables} (K : KeysAgree T) {v : Nat} (h : dictHas T.fw v = true) : ∃ r, T.RowAt v r := by
  obtain ⟨fw, h0⟩ := dictGet_some_of_has h
  obtain ⟨ua, h1⟩ := dictGet_of_agree K.dauthUA h
  obtain ⟨d, h2⟩ := dictGet_of_agree K.digest h
  obtain ⟨k, h3⟩ := dictGet_of_agree K.keygen h
  obtain ⟨a, h4⟩ := dictGet_of_agree K.dauthApi h
  obtain ⟨aua, h5⟩ := dictGet_of_agree K.aauthUA h
  obtain ⟨aa, h6⟩ := dictGet_of_agree K.aauthApi h
  obtain ⟨bua, h7⟩ := dictGet_of_agree K.baasUA h
  obtain ⟨fua, h8⟩ := dictGet_of_agree K.fiveUA h
  exact ⟨⟨fw, ua, d, k, a, aua, aa, bua, fua⟩, h0, h1, h2, h3, h4, h5, h6, h7, h8⟩

section SetVersion
variable {T : Tables} {v : Nat} {r : Row} (R : T.RowAt v r)
include R

theorem dauth_setVersion_known (s : Dauth) : Dauth.setVersion T s v =
    ({ s with version := v, ua := r.dauthUA, digest := r.digest, keygen := r.keygen, api := r.dauthApi }, none) := by
  simp [Dauth.setVersion, ← dictGet_isSome_iff, R.dauthUA, R.digest, R.keygen, R.dauthApi]

theorem aauth_setVersion_known (s : Aauth) : Aauth.setVersion T s v = ({ s with version := v, ua := r.aauthUA, api := r.aauthApi }, none) := by
  simp [Aauth.setVersion, ← dictGet_isSome_iff, R.aauthUA, R.aauthApi]

theorem baas_setVersion_known (s : Baas) : Baas.setVersion T s v = ({ s with version := v, ua := r.baasUA }, none) := by
  simp [Baas.setVersion, ← dictGet_isSome_iff, R.baasUA]

theorem five_setVersion_known (s : Five) : Five.setVersion T s v = ({ s with version := v, ua := r.fiveUA }, none) := by
  simp [Five.setVersion, ← dictGet_isSome_iff, R.fiveUA]

theorem dragons_setVersion_known (s : Dragons) : Dragons.setVersion T s v =
    ({ s with version := v, uaNim := (match s.deviceId with | some d => some (nimUA r.fw d) | none => s.uaNim), uaDauth := r.dauthUA }, none) := by
  cases hd : s.deviceId <;> simp [Dragons.setVersion, ← dictGet_isSome_iff, R.fw, R.dauthUA, hd]

end SetVersion

theorem nim_setVersion_known {T : Tables} {v : Nat} {fw : String} (h : dictGet T.fw v = some fw) (s : Nim) :
    Nim.setVersion T s v = ({ s with ua := nimUA fw s.deviceId }, none) := by
  simp [Nim.setVersion, ← dictGet_isSome_iff, h]

theorem dauth_setVersion_unknown (T : Tables) (s : Dauth) (v : Nat) (h : dictHas T.dauthUA v = false) :
    Dauth.setVersion T s v = (s, some .value) := by
  simp [Dauth.setVersion, h]

theorem aauth_setVersion_unknown (T : Tables) (s : Aauth) (v : Nat) (h : dictHas T.aauthUA v = false) :
    Aauth.setVersion T s v = (s, some .value) := by
  simp [Aauth.setVersion, h]

theorem baas_setVersion_unknown (T : Tables) (s : Baas) (v : Nat) (h : dictHas T.baasUA v = false) :
    Baas.setVersion T s v = (s, some .value) := by
  simp [Baas.setVersion, h]

theorem five_setVersion_unknown (T : Tables) (s : Five) (v : Nat) (h : dictHas T.fiveUA v = false) :
    Five.setVersion T s v = (s, some .value) := by
  simp [Five.setVersion, h]

theorem dragons_setVersion_unknown (T : Tables) (s : Dragons) (v : Nat) (h : dictHas T.fw v = false) :
    Dragons.setVersion T s v = (s, some .value) := by
  simp [Dragons.setVersion, h]

theorem nim_setVersion_unknown (T : Tables) (s : Nim) (v : Nat) (h : dictHas T.fw v = false) :
    Nim.setVersion T s v = (s, some .value) := by
  simp [Nim.setVersion, h]

/-- tables whose key sets differ (version 2 is in `USER_AGENT` only) -/
def raggedTables : Tables :=
  { fw := [(1, "1")], dauthUA := [(1, "ua1"), (2, "ua2")], digest := [(1, "d1")], keygen := [(1, 1)], dauthApi := [(1, 6)],
    aauthUA := [], aauthApi := [], baasUA := [], fiveUA := [], latestDauth := 1, latestAauth := 1, latestBaas := 1,
    latestDragons := 1, latestFive := 1, latestSun := 1, latestAtumn := 1, languages := [] }

def raggedStart : Dauth := { version := 1, ua := "ua1", digest := "d1", keygen := 1, api := 6 }

theorem eraConstant_eq {d : Dict Nat} (h : eraConstant d = true) {v₁ v₂ a₁ a₂ : Nat}
    (h1 : dictGet d v₁ = some a₁) (h2 : dictGet d v₂ = some a₂) (hle : v₁ ≤ v₂) (hb : noBoundary v₁ v₂ = true) : a₁ = a₂ := by
  simp only [eraConstant, List.all_eq_true] at h
  have := h _ (dictGet_mem h1) _ (dictGet_mem h2)
  simp [hle, hb] at this
  exact this

theorem noBoundary_iff {v₁ v₂ : Nat} (hle : v₁ ≤ v₂) (hb : noBoundary v₁ v₂ = true) :
    (v₁ < 1300 ↔ v₂ < 1300) ∧ (v₁ < 1500 ↔ v₂ < 1500) ∧ (v₁ < 1800 ↔ v₂ < 1800) ∧ (v₁ < 1900 ↔ v₂ < 1900) := by
  simp [noBoundary, boundaries] at hb
  omega

theorem dauth_headerNames_congr (s₁ s₂ : Dauth) (hv : s₁.version < 1800 ↔ s₂.version < 1800) :
    s₁.headers.map (·.1) = s₂.headers.map (·.1) := by
  unfold Dauth.headers
  by_cases h : s₂.version < 1800
  · rw [if_pos h, if_pos (hv.mpr h)]; rfl
  · rw [if_neg h, if_neg (mt hv.mp h)]; rfl

theorem dauth_call_shape_congr (c : DauthCall) (s₁ s₂ : Dauth) (ha : s₁.api = s₂.api) (hv : (s₁.version < 1800 ↔ s₂.version < 1800)) :
    shapes (s₁.call c) = shapes (s₂.call c) := by
  have hn := dauth_headerNames_congr s₁ s₂ hv
  cases c <;> simp only [shapes, Dauth.call, Dauth.challengeReq, Except.map, Req.shape, Body.keys, Dauth.tokenForm, sv, hn, ha, List.map,
    List.map_append, List.cons_append, List.nil_append]

theorem aauth_headerNames_congr (s₁ s₂ : Aauth) (hv : s₁.version < 1800 ↔ s₂.version < 1800) (p : Bool) :
    (s₁.headers p).map (·.1) = (s₂.headers p).map (·.1) := by
  unfold Aauth.headers
  by_cases h : s₂.version < 1800
  · rw [if_pos h, if_pos (hv.mpr h)]; cases p <;> rfl
  · rw [if_neg h, if_neg (mt hv.mp h)]; cases p <;> rfl

theorem aauth_call_shape_congr (c : AauthCall) (s₁ s₂ : Aauth) (ha : s₁.api = s₂.api) (hv : (s₁.version < 1800 ↔ s₂.version < 1800)) :
    shapes (s₁.call c) = shapes (s₂.call c) := by
  have hn := aauth_headerNames_congr s₁ s₂ hv
  cases c <;> simp only [shapes, Aauth.call, Aauth.authPath, Aauth.authBase, Aauth.authTypeKey, Except.map, Req.shape, Body.keys, sv, optS, hn, ha,
    propext hv, List.map, List.cons_append, List.nil_append]
  cases digitalCert _ _ _ _ _ <;> simp only [hn, List.map]

theorem baas_plan_congr (v₁ v₂ : Nat) (h18 : v₁ < 1800 ↔ v₂ < 1800) (h19 : v₁ < 1900 ↔ v₂ < 1900) (c : BaasCall) :
    Baas.plan v₁ c = Baas.plan v₂ c := by
  have e18 : (v₁ ≥ 1800) = (v₂ ≥ 1800) := propext (by omega)
  have e19 : (v₁ ≥ 1900) = (v₂ ≥ 1900) := propext (by omega)
  cases c <;> simp only [Baas.plan, e18, e19]

theorem baas_headerNames_congr (s₁ s₂ : Baas) (u₁ u₂ m : String) (hasJson : Bool) (tok : Option String) (module : String)
    (usePower : Bool) :
    (s₁.headers u₁ m hasJson tok module usePower).map (·.1) = (s₂.headers u₂ m hasJson tok module usePower).map (·.1) := by
  simp only [Baas.headers, List.map_append, apply_ite (List.map _), List.map]

theorem baas_send_shape (s₁ s₂ : Baas) (p : BaasPlan) (u₁ u₂ : String)
    (h₁ : fmtS s₁.ua p.module = .ok u₁) (h₂ : fmtS s₂.ua p.module = .ok u₂) :
    shapes (s₁.send p) = shapes (s₂.send p) := by
  simp only [shapes, Baas.send, h₁, h₂, bind, Except.bind, pure, Except.pure, Except.map, Req.shape, List.map,
    baas_headerNames_congr s₁ s₂ u₁ u₂]

/- The call comes first in these lemmas: with it last, Lean elaborates the hypotheses before it knows the two states, and
   matching a fact about `fmtS ua` against `fmtS ?s.ua` sends the unifier through `fmtChars`. -/
theorem baas_call_shape_congr (c : BaasCall) (s₁ s₂ : Baas) (h18 : s₁.version < 1800 ↔ s₂.version < 1800) (h19 : s₁.version < 1900 ↔ s₂.version < 1900)
    (hf₁ : ∀ m, ∃ u, fmtS s₁.ua m = .ok u) (hf₂ : ∀ m, ∃ u, fmtS s₂.ua m = .ok u) :
    shapes (s₁.call c) = shapes (s₂.call c) := by
  simp only [Baas.call, baas_plan_congr _ _ h18 h19 c]
  cases hp : Baas.plan s₂.version c with
  | error e => simp [shapes, bind, Except.bind, Except.map]
  | ok p =>
    obtain ⟨u₁, h₁⟩ := hf₁ p.module
    obtain ⟨u₂, h₂⟩ := hf₂ p.module
    simpa [bind, Except.bind] using baas_send_shape s₁ s₂ p u₁ u₂ h₁ h₂

/-- `DragonsClient.request` reads the client only for the user agent, and the shape only sees whether there is one -/
theorem dragons_send_shape (s₁ s₂ : Dragons) (hd : s₁.uaNim.isSome = s₂.uaNim.isSome) (m p h₁ h₂ t : String) (acc : Option Nat)
    (j : Option J) : shapes (s₁.send m p h₁ t acc j) = shapes (s₂.send m p h₂ t acc j) := by
  cases u₁ : s₁.uaNim <;> cases u₂ : s₂.uaNim <;> simp [u₁, u₂] at hd <;> cases j <;>
    simp [shapes, Dragons.send, u₁, u₂, Except.map, Req.shape]

theorem dragons_call_shape_congr (c : DragonsCall) (s₁ s₂ : Dragons) (hd : s₁.uaNim.isSome = s₂.uaNim.isSome)
    (h15 : s₁.version < 1500 ↔ s₂.version < 1500) (h18 : s₁.version < 1800 ↔ s₂.version < 1800) :
    shapes (s₁.call c) = shapes (s₂.call c) := by
  cases c with
  | contentsAuthorizationTokenForAauth tok eid na title =>
    by_cases a : s₂.version < 1500 <;> by_cases b : s₂.version < 1800 <;>
      simp [shapes, Dragons.call, propext h15, propext h18, a, b, Except.map, Req.shape, Body.keys]
  | _ => simp only [Dragons.call]; exact dragons_send_shape s₁ s₂ hd ..

theorem five_headerNames_congr (s₁ s₂ : Five) (m : String) (b : FiveBody) (tok : String) :
    (s₁.headers m b tok).map (·.1) = (s₂.headers m b tok).map (·.1) := by
  simp only [Five.headers, List.map_append, List.map]

theorem five_call_shape_congr (T : Tables) (c : FiveCall) (s₁ s₂ : Five) (h19 : s₁.version < 1900 ↔ s₂.version < 1900) :
    shapes (Five.call T s₁ c) = shapes (Five.call T s₂ c) := by
  have e19 : (s₁.version ≥ 1900) = (s₂.version ≥ 1900) := propext (by omega)
  have hn := five_headerNames_congr s₁ s₂
  cases c <;> simp only [shapes, Five.call, e19, Except.map, Req.shape, List.map, hn]
  cases sendInvitationValid _ _ _ _ <;> simp [hn]

theorem sun_call_shape_congr (c : SunCall) (s₁ s₂ : Nim) : shapes (s₁.sunCall c) = shapes (s₂.sunCall c) := by
  simp [shapes, Nim.sunCall, Except.map, Req.shape, Body.keys, sv]

theorem atumn_call_shape_congr (c : AtumnCall) (s₁ s₂ : Nim) : shapes (s₁.atumnCall c) = shapes (s₂.atumnCall c) := by
  cases c <;> simp [shapes, Nim.atumnCall, Nim.atumnHeaders, Except.map, Req.shape, Body.keys, sv]

theorem isOk_map {α β ε : Type} (f : α → β) (x : Except ε α) : (x.map f).isOk = x.isOk := by cases x <;> rfl

theorem fmtChars_isOk (t a b : List Char) (used : Bool) : (fmtChars t a used).isOk = (fmtChars t b used).isOk := by
  fun_induction fmtChars t a used <;> simp_all [fmtChars, isOk_map]

theorem templateOk_fmtS (u : String) (h : templateOk u.toList = true) (m : String) : ∃ r, fmtS u m = .ok r := by
  have : (fmtChars u.toList m.toList false).isOk = true := by
    rw [fmtChars_isOk _ _ [], ← h, templateOk]; cases fmtChars u.toList [] false <;> rfl
  cases hf : fmtChars u.toList m.toList false with
  | ok r => exact ⟨String.ofList r, by simp [fmtS, hf, Except.map]⟩
  | error e => simp [hf, Except.isOk, Except.toBool] at this

/-- every baas user-agent template of the table formats -/
def TemplatesOk (T : Tables) : Prop := ∀ p ∈ T.baasUA, templateOk p.2.toList = true

theorem TemplatesOk.fmtS {T : Tables} (hT : TemplatesOk T) {v : Nat} {ua : String} (h : dictGet T.baasUA v = some ua) (m : String) :
    ∃ r, fmtS ua m = .ok r :=
  templateOk_fmtS ua (hT (v, ua) (dictGet_mem h)) m

theorem shapes_error (e : Err) : shapes (.error e) = .error e := rfl

/-- "construct, select a version, call" for two versions: it is enough that both versions are accepted and lead to
    states whose calls have the same shapes -/
theorem runAt_shape {σ : Type} {init : Except Err σ} {setv : σ → Nat → Upd σ} {v₁ v₂ : Nat} {call : σ → Except Err (List Sent)}
    {f₁ f₂ : σ → σ} (e₁ : ∀ s, setv s v₁ = (f₁ s, none)) (e₂ : ∀ s, setv s v₂ = (f₂ s, none))
    (h : ∀ s, shapes (call (f₁ s)) = shapes (call (f₂ s))) :
    shapes (runAt init setv v₁ call) = shapes (runAt init setv v₂ call) := by
  cases init with
  | error e => rfl
  | ok s => simpa only [runAt, e₁, e₂] using h s

theorem requestsAt_shape (T : Tables) (K : KeysAgree T) (hE1 : eraConstant T.dauthApi = true) (hE2 : eraConstant T.aauthApi = true)
    (hT : TemplatesOk T) {v₁ v₂ : Nat} (hle : v₁ ≤ v₂) (hb : noBoundary v₁ v₂ = true)
    (h1 : dictHas T.fw v₁ = true) (h2 : dictHas T.fw v₂ = true) (c : AnyCall) :
    shapes (requestsAt T v₁ c) = shapes (requestsAt T v₂ c) := by
  obtain ⟨_, b15, b18, b19⟩ := noBoundary_iff hle hb
  obtain ⟨r₁, R₁⟩ := K.rowAt h1
  obtain ⟨r₂, R₂⟩ := K.rowAt h2
  cases c with
  | dauth c =>
    exact runAt_shape (dauth_setVersion_known R₁) (dauth_setVersion_known R₂) fun _ =>
      dauth_call_shape_congr c _ _ (eraConstant_eq hE1 R₁.dauthApi R₂.dauthApi hle hb) b18
  | aauth c =>
    exact runAt_shape (aauth_setVersion_known R₁) (aauth_setVersion_known R₂) fun _ =>
      aauth_call_shape_congr c _ _ (eraConstant_eq hE2 R₁.aauthApi R₂.aauthApi hle hb) b18
  | baas c =>
    exact runAt_shape (baas_setVersion_known R₁) (baas_setVersion_known R₂) fun _ =>
      baas_call_shape_congr c _ _ b18 b19 (hT.fmtS R₁.baasUA) (hT.fmtS R₂.baasUA)
  | dragons d c =>
    exact runAt_shape (dragons_setVersion_known R₁) (dragons_setVersion_known R₂) fun s =>
      dragons_call_shape_congr c _ _ (by cases s.deviceId <;> simp) b15 b18
  | five c => exact runAt_shape (five_setVersion_known R₁) (five_setVersion_known R₂) fun _ => five_call_shape_congr T c _ _ b19
  | sun d c => exact runAt_shape (nim_setVersion_known R₁.fw) (nim_setVersion_known R₂.fw) fun _ => sun_call_shape_congr c _ _
  | atumn d c => exact runAt_shape (nim_setVersion_known R₁.fw) (nim_setVersion_known R₂.fw) fun _ => atumn_call_shape_congr c _ _

def formFieldsOf (r : Req) : List (String × Option String) :=
  match r.body with
  | .form l => l
  | .rawform l => l
  | _ => []

theorem five_headers_ua (s : Five) (m : String) (b : FiveBody) (tok : String) : ("User-Agent", s.ua) ∈ s.headers m b tok := by
  simp only [Five.headers, List.mem_append, List.mem_cons, true_or, or_true]

theorem five_call_ua (T : Tables) (s : Five) (c : FiveCall) (r : List Sent) (hr : Five.call T s c = .ok r) :
    ∀ x ∈ r, ("User-Agent", s.ua) ∈ x.2.headers := by
  cases c <;> simp only [Five.call] at hr
  case sendInvitation => split at hr <;> cases hr; simp only [List.mem_singleton, forall_eq]; exact five_headers_ua ..
  all_goals cases hr; simp only [List.mem_singleton, forall_eq]; exact five_headers_ua ..

theorem messagesOk_iff (L : List String) (m : List (String × String)) :
    messagesOk L m = true ↔ ∀ p ∈ m, p.1 ∈ L ∧ p.2.length < 0xC0 := by
  induction m with
  | nil => simp [messagesOk]
  | cons p r ih =>
    simp [messagesOk, ih, and_assoc]

theorem sendInvitationValid_iff (L : List String) (recv : List Nat) (msgs : List (String × String)) (data : Bytes) :
    sendInvitationValid L recv msgs data = true ↔
      recv.length ≤ 16 ∧ (∀ p ∈ msgs, p.1 ∈ L ∧ p.2.length < 0xC0) ∧ data.length ≤ 0x400 := by
  simp [sendInvitationValid, messagesOk_iff, and_assoc]

def Outcome.isTyped : Outcome → Bool | .typed .. => true | _ => false
def Outcome.isOk : Outcome → Bool | .ok .. => true | _ => false
def Outcome.isRaise : Outcome → Bool | .raises => true | _ => false

/-- which top-level key marks an error document for the four clients that test for one -/
def errorKey : Client → Option String
  | .dauth => some "errors" | .aauth => some "errors" | .baas => some "errorCode" | .five => some "error"
  | _ => none

theorem get?_some_contains {l : List (String × J)} {k : String} {v : J} (h : (J.obj l).get? k = some v) :
    (J.obj l).contains? k = some true ∧ (J.obj l).truthy = true := by
  simp only [J.get?, Option.map_eq_some_iff] at h
  obtain ⟨p, hp, _⟩ := h
  have hm := List.mem_of_find?_eq_some hp
  have hk := List.find?_some hp
  constructor
  · simp only [J.contains?, Option.some.injEq, List.any_eq_true]
    exact ⟨p, hm, hk⟩
  · cases l with
    | nil => simp at hm
    | cons a r => simp [J.truthy]

theorem classifyErrors_typed (status : Nat) (fields e : List (String × J)) (rest : List J) (code : Int) (msg : J)
    (hk : (J.obj fields).get? "errors" = some (.arr (J.obj e :: rest)))
    (hrest : ∀ x ∈ rest, ∃ f, x = J.obj f ∧ ((J.obj f).get? "code").isSome ∧ ((J.obj f).get? "message").isSome)
    (hc : ((J.obj e).get? "code").bind J.toInt? = some code) (hm : (J.obj e).get? "message" = some msg) :
    classifyErrors ⟨status, some (.obj fields)⟩ = .typed (.num code) msg := by
  obtain ⟨h1, h2⟩ := get?_some_contains hk
  simp only [classifyErrors, h1, h2, hk, Bool.not_true, Bool.false_eq_true, if_false]
  rw [if_pos, hc, hm]
  rw [List.all_cons, Bool.and_eq_true, List.all_eq_true]
  constructor
  · cases h : (J.obj e).get? "code" <;> simp [h, hm] at hc ⊢
  · intro x hx
    obtain ⟨f, rfl, a, b⟩ := hrest x hx
    simp [a, b]

/- With its error key present no branch of a classifier ends in `finish`, the only source of `.ok` and `.httpError`. -/

theorem classifyErrors_key (status : Nat) (j : J) (ht : j.truthy = true) (hc : j.contains? "errors" = some true) :
    (classifyErrors ⟨status, some j⟩).isTyped = true ∨ (classifyErrors ⟨status, some j⟩).isRaise = true := by
  simp only [classifyErrors, ht, hc, Bool.not_true, Bool.false_eq_true, if_false]
  split
  · split
    · split
      · exact .inl rfl
      · exact .inr rfl
    · exact .inr rfl
  · exact .inr rfl

theorem classifyBaas_key (status : Nat) (j : J) (ht : j.truthy = true) (hc : j.contains? "errorCode" = some true) :
    (classifyBaas ⟨status, some j⟩).isTyped = true ∨ (classifyBaas ⟨status, some j⟩).isRaise = true := by
  simp only [classifyBaas, ht, hc, Bool.not_true, Bool.false_eq_true, if_false]
  split
  · exact .inl rfl
  · exact .inr rfl

theorem classifyFive_key (status : Nat) (j : J) (ht : j.truthy = true) (hc : j.contains? "error" = some true) :
    (classifyFive ⟨status, some j⟩).isTyped = true ∨ (classifyFive ⟨status, some j⟩).isRaise = true := by
  simp only [classifyFive, ht, hc, Bool.not_true, Bool.false_eq_true, if_false]
  split
  · split
    · exact .inl rfl
    · exact .inr rfl
  · exact .inr rfl

/-! ## from `Coded` to `Tables`

The generated obligations are `decide +kernel` on `Coded` (strings as code-point lists: the kernel is slow on `String`s); the
generated file carries each `true` over to `Coded.decode` with these lemmas and then instantiates the theorems of `NxProps/C18`. -/

theorem keysOf_decodeDict (d : Dict CStr) : keysOf (decodeDict d) = keysOf d := by
  simp [keysOf, decodeDict, List.map_map, Function.comp_def]

theorem Coded.decode_keys (c : Coded) : c.decode.keys = c.keys := by
  simp [Coded.decode, Tables.keys, Coded.keys, keysOf_decodeDict]

theorem decodeStr_cs (s : String) : decodeStr (cs s) = s := by
  simp [decodeStr, cs, List.map_map, Function.comp_def]

theorem languages_of_coded (c : Coded) (h : c.languagesOk = true) : c.decode.languages = documentedLanguages := by
  simp only [Coded.languagesOk, Bool.and_eq_true, beq_iff_eq] at h
  simp [Coded.decode, h.1, List.map_map, Function.comp_def, decodeStr_cs]

theorem templatesOk_of_coded (c : Coded) (h : c.baasTemplatesOk = true) : TemplatesOk c.decode := by
  intro p hp
  simp only [Coded.decode, decodeDict, List.mem_map] at hp
  obtain ⟨q, hq, rfl⟩ := hp
  simp only [Coded.baasTemplatesOk, List.all_eq_true] at h
  have := h q hq
  simpa [decodeStr] using this

theorem apiEra_of_coded (c : Coded) (h : c.apiEraOk = true) :
    eraConstant c.decode.dauthApi = true ∧ eraConstant c.decode.aauthApi = true := by
  simpa [Coded.apiEraOk, Coded.decode] using h

end Nx.Switch
