import NxModel.Misc.AuthClients
/-! facts about the client objects: operation sequences compose, a request is authenticated with the
    values the knobs have when it is issued, whatever happened on the object before; the header dict of these clients keeps the last
    write (`dictGet_dictSet_same/_other`) -/
namespace Nx.Misc

theorem hppRun_append (c : HppClient) (a b : List HppOp) :
    hppRun c (a ++ b) = ((hppRun (hppRun c a).1 b).1, (hppRun c a).2 ++ (hppRun (hppRun c a).1 b).2) := by
  induction a generalizing c with
  | nil => simp [hppRun]
  | cons op r ih => simp [hppRun, ih, List.append_assoc]

theorem hppRun_snoc (c : HppClient) (ops : List HppOp) (op : HppOp) :
    hppRun c (ops ++ [op]) =
      ((hppStep (hppRun c ops).1 op).1, (hppRun c ops).2 ++ (hppStep (hppRun c ops).1 op).2) := by
  rw [hppRun_append]; simp [hppRun]

theorem hppSend_eq_fresh (c : HppClient) (data : Bytes) :
    hppSend c data = hppSend { HppClient.fresh c.accessKey c.password c.pid with callId := c.callId } data := rfl

/-- assignment changes no key, so a lookup finds the entry it found before, rewritten if its key is `k` -/
theorem find?_dictSet_map (d : Dict) (k k' v : Bytes) :
    (d.map fun e => if e.1 = k then (k, v) else e).find? (fun e => e.1 = k') =
      (d.find? (fun e => e.1 = k')).map fun e => if e.1 = k then (k, v) else e := by
  rw [List.find?_map]
  congr 2
  funext e
  by_cases he : e.1 = k <;> simp [he]

theorem dictGet_dictSet_same (d : Dict) (k v : Bytes) : dictGet (dictSet d k v) k = .ok v := by
  unfold dictSet dictGet
  by_cases h : d.any (fun e => e.1 = k) = true
  · obtain ⟨e, hf⟩ : ∃ e, d.find? (fun e => decide (e.1 = k)) = some e := by
      rw [← Option.isSome_iff_exists]; simpa using h
    have he : e.1 = k := by simpa using List.find?_some hf
    rw [if_pos h, find?_dictSet_map, hf]
    simp [he]
  · have hn : d.find? (fun e => decide (e.1 = k)) = none := by
      rw [List.find?_eq_none]; intro e he
      simp only [List.any_eq_true, not_exists, not_and] at h
      simpa using h e he
    rw [if_neg h, List.find?_append, hn]
    simp

theorem dictGet_dictSet_other (d : Dict) (k k' v : Bytes) (hk : k' ≠ k) :
    dictGet (dictSet d k v) k' = dictGet d k' := by
  unfold dictSet dictGet
  by_cases h : d.any (fun e => e.1 = k) = true
  · rw [if_pos h, find?_dictSet_map]
    cases hf : d.find? (fun e => decide (e.1 = k')) with
    | none => rfl
    | some e =>
      have he : e.1 = k' := by simpa using List.find?_some hf
      simp [he, hk]
  · rw [if_neg h, List.find?_append]
    cases hf : d.find? (fun e => decide (e.1 = k')) with
    | some e => simp
    | none => simp [List.find?, Ne.symm hk]

theorem dauthRun_append (c : DAuthClient) (a b : List DAuthOp) :
    dauthRun c (a ++ b) = ((dauthRun (dauthRun c a).1 b).1, (dauthRun c a).2 ++ (dauthRun (dauthRun c a).1 b).2) := by
  induction a generalizing c with
  | nil => simp [dauthRun]
  | cons op r ih => simp [dauthRun, ih, List.append_assoc]

theorem dauthRun_snoc (c : DAuthClient) (ops : List DAuthOp) (op : DAuthOp) :
    dauthRun c (ops ++ [op]) =
      ((dauthStep (dauthRun c ops).1 op).1, (dauthRun c ops).2 ++ (dauthStep (dauthRun c ops).1 op).2) := by
  rw [dauthRun_append]; simp [dauthRun]

theorem DAuthClient.mac_eq (c : DAuthClient) (form data kek mk : Bytes)
    (h1 : dictGet c.keys (ascii "aes_kek_generation_source") = .ok kek)
    (h2 : dictGet c.keys (masterKeyName c.keygen) = .ok mk) :
    c.mac form data = dauthMac kek mk data form := by
  simp [DAuthClient.mac, h1, h2, bind, Except.bind]

/-- the kek source is never mistaken for a master key: the names start with `a` and with `m` -/
theorem kekName_ne_masterKeyName (g : Nat) : ascii "aes_kek_generation_source" ≠ masterKeyName g := by
  intro h
  have := congrArg List.head? h
  rw [masterKeyName, List.head?_append, show (ascii "master_key_").head? = some 109 by decide +kernel,
    show (ascii "aes_kek_generation_source").head? = some 97 by decide +kernel] at this
  cases this

end Nx.Misc
