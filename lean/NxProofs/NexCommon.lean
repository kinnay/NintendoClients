import NxModel.Nex.Common
import NxProofs.Bits
/-! `Result`: bit 31 (`errorMask`) is the error flag. `|` and `&` with the mask are turned into `+`, `/`, `%`
(`NxProofs/Bits.lean`) so that `omega` decides the rest. -/
namespace Nx.Nex

theorem mkError_of_lt (c : Nat) (h : c < errorMask) : Result.mkError c = c + errorMask :=
  Nat.or_two_pow_eq_add_of_lt (n := 31) h

theorem and_errorMask (c : Nat) : c &&& errorMask = errorMask * (c / errorMask % 2) := by
  have := and_two_pow c 31
  simpa [errorMask] using this

theorem isError_mkError (c : Nat) : Result.isError (Result.mkError c) = true := by
  unfold Result.isError Result.mkError
  rw [or_and_self]; decide

theorem isSuccess_mkSuccess (c : Nat) : Result.isSuccess (Result.mkSuccess c) = true := by
  unfold Result.isSuccess Result.mkSuccess
  rw [and_errorMask, and_errorMask]
  have : (c - errorMask * (c / errorMask % 2)) / errorMask % 2 = 0 := by
    unfold errorMask; omega
  rw [this]; decide

theorem isError_eq_not_isSuccess (c : Nat) : Result.isError c = !Result.isSuccess c := by
  unfold Result.isError Result.isSuccess; simp

theorem mkSuccess_mkError (c : Nat) (h : c < errorMask) : Result.mkSuccess (Result.mkError c) = c := by
  rw [mkError_of_lt c h]
  unfold Result.mkSuccess
  rw [and_errorMask]
  have : (c + errorMask) / errorMask % 2 = 1 := by unfold errorMask at *; omega
  rw [this]; omega

theorem isError_iff_bit31 (c : Nat) : Result.isError c = true ↔ c / 2147483648 % 2 = 1 := by
  unfold Result.isError
  rw [and_errorMask]
  unfold errorMask
  rcases Nat.mod_two_eq_zero_or_one (c / 2147483648) with h | h <;> simp [h]

end Nx.Nex
