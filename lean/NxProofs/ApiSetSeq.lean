import NxModel.Api.Legacy
import NxProofs.Bytes
/-! C20 — setter sequences on one client object: a later call of a setter replaces everything an earlier call of the SAME setter
configured (optional arguments that were given earlier and are omitted later included: the omitted argument is its default, which
is what the `NnasSet` / `NascSet` constructors carry); for nnas, calls of setters of DIFFERENT attribute groups commute (`nnas_apply_apply` says
both). Tie: harness/c20_optseq.py. -/
namespace Nx.Api

/-- the attribute group a nasc setter writes (`set_user` and `set_password` write the same group) -/
def NascSet.kind : NascSet → Nat
  | .url _ => 0 | .sdkVersion .. => 1 | .title .. => 2 | .device .. => 3 | .network .. => 4 | .locale .. => 5
  | .user .. => 6 | .password _ => 6 | .fpdVersion _ => 7 | .environment _ => 8

theorem nnas_apply_apply (s : Nnas) (st st' : NnasSet) :
    (s.apply st).apply st' = if st.kind = st'.kind then s.apply st' else (s.apply st').apply st := by
  cases st <;> cases st' <;> rfl

theorem nnas_last_call_wins (s : Nnas) (st st' : NnasSet) (h : st.kind = st'.kind) :
    (s.apply st).apply st' = s.apply st' := by
  rw [nnas_apply_apply, if_pos h]

theorem apply_ok_title {s s' : Nasc} {id v pc mc mt rom} (h : s.apply (.title id v pc mc mt rom) = .ok s') :
    s' = { s with titleId := some id, titleVersion := v, productCode := pc, makerCode := mc, mediaType := mt, romId := rom } :=
  (Except.ok.inj (of_ite_error h).2).symm

theorem nasc_last_call_wins (s s₁ : Nasc) (st st' : NascSet) (h : st.kind = st'.kind) (h₁ : s.apply st = .ok s₁) :
    s₁.apply st' = s.apply st' := by
  cases st <;> cases st' <;> simp [NascSet.kind] at h
  case title.title => rw [apply_ok_title h₁]; rfl
  all_goals cases h₁; rfl

end Nx.Api
