import NxModel.Nex.DateTime
import NxProofs.Bits
/-! DateTime: bit packing, civil calendar bijection, Unix-time round trip.

The calendar proofs all go through one decomposition: a day number is `era * 146097 + yearStart yoe + doy` with
`yoe ≤ 399` and `doy` a day of the March-based year `yoe` (`day_components`), and `doy` is
`(153 * mp + 2) / 5 + d - 1` for the month index `mp` (March = 0). `civilOfDays_compose` and `daysOfCivil_compose`
evaluate the two conversions on these components; the facts about each component are stated once, about variables. -/
namespace Nx.Nex.DateTime

/-! A value is the mixed-radix number with digits second, minute, hour, day, month (bases 64, 64, 32, 32, 16) below the
year: `make` is the Horner sum, the accessors are iterated `/` and `%`. -/

theorem second_eq (v : Nat) : second v = v % 64 := Nat.and_two_pow_sub_one_eq_mod v 6
theorem minute_eq (v : Nat) : minute v = v / 64 % 64 := by
  unfold minute; rw [Nat.shiftRight_eq_div_pow]; exact Nat.and_two_pow_sub_one_eq_mod _ 6
theorem hour_eq (v : Nat) : hour v = v / 64 / 64 % 32 := by
  unfold hour; rw [Nat.shiftRight_eq_div_pow, Nat.div_div_eq_div_mul]; exact Nat.and_two_pow_sub_one_eq_mod _ 5
theorem day_eq (v : Nat) : day v = v / 64 / 64 / 32 % 32 := by
  unfold day; rw [Nat.shiftRight_eq_div_pow, Nat.div_div_eq_div_mul, Nat.div_div_eq_div_mul]; exact Nat.and_two_pow_sub_one_eq_mod _ 5
theorem month_eq (v : Nat) : month v = v / 64 / 64 / 32 / 32 % 16 := by
  unfold month; rw [Nat.shiftRight_eq_div_pow, Nat.div_div_eq_div_mul, Nat.div_div_eq_div_mul, Nat.div_div_eq_div_mul]
  exact Nat.and_two_pow_sub_one_eq_mod _ 4
theorem year_eq (v : Nat) : year v = v / 64 / 64 / 32 / 32 / 16 := by
  unfold year
  rw [Nat.shiftRight_eq_div_pow, Nat.div_div_eq_div_mul, Nat.div_div_eq_div_mul, Nat.div_div_eq_div_mul, Nat.div_div_eq_div_mul]

theorem make_eq (f : Fields) (h : f.InRange) :
    make f = f.second + (f.minute + (f.hour + (f.day + (f.month + f.year * 16) * 32) * 32) * 64) * 64 := by
  obtain ⟨hmo, hd, hh, hmi, hs⟩ := h
  unfold make
  rw [or_shiftLeft_of_lt 6 f.minute (by omega), or_shiftLeft_of_lt 12 f.hour (by omega),
    or_shiftLeft_of_lt 17 f.day (by omega), or_shiftLeft_of_lt 22 f.month (by omega),
    or_shiftLeft_of_lt 26 f.year (by omega)]
  omega

theorem fields_make (f : Fields) (h : f.InRange) : fields (make f) = f := by
  rw [make_eq f h]
  obtain ⟨hmo, hd, hh, hmi, hs⟩ := h
  -- digit by digit: `(a + b * n) % n = a` and `(a + b * n) / n = b` for `a < n`
  simp only [fields, second_eq, minute_eq, hour_eq, day_eq, month_eq, year_eq, Nat.add_mul_mod_self_right,
    Nat.add_mul_div_right, Nat.mod_eq_of_lt, Nat.div_eq_of_lt, Nat.zero_add, hmo, hd, hh, hmi, hs, Nat.zero_lt_succ]

theorem fields_inRange (v : Nat) : (fields v).InRange := by
  simp only [Fields.InRange, fields, second_eq, minute_eq, hour_eq, day_eq, month_eq]
  omega

theorem make_fields (v : Nat) : make (fields v) = v := by
  rw [make_eq _ (fields_inRange v)]
  simp only [fields, second_eq, minute_eq, hour_eq, day_eq, month_eq, year_eq, Nat.mod_add_div']

theorem isLeap_iff (y : Nat) : isLeap y = true ↔ (y % 4 = 0 ∧ (y % 100 ≠ 0 ∨ y % 400 = 0)) := by
  simp [isLeap]

theorem isLeap_mod (y : Nat) : isLeap (y % 400) = isLeap y := by
  unfold isLeap
  rw [Nat.mod_mod_of_dvd _ (by decide : 4 ∣ 400), Nat.mod_mod_of_dvd _ (by decide : 100 ∣ 400), Nat.mod_mod]

theorem isLeap_add_era (y e : Nat) : isLeap (y + e * 400) = isLeap y := by
  rw [← isLeap_mod, Nat.add_mul_mod_self_right, isLeap_mod]

theorem dim_31 (y m : Nat) (h : m = 1 ∨ m = 3 ∨ m = 5 ∨ m = 7 ∨ m = 8 ∨ m = 10 ∨ m = 12) : daysInMonth y m = 31 := by
  rcases h with rfl | rfl | rfl | rfl | rfl | rfl | rfl <;> rfl
theorem dim_30 (y m : Nat) (h : m = 4 ∨ m = 6 ∨ m = 9 ∨ m = 11) : daysInMonth y m = 30 := by
  rcases h with rfl | rfl | rfl | rfl <;> rfl
theorem dim_feb (y : Nat) : daysInMonth y 2 = if isLeap y then 29 else 28 := rfl

theorem daysInMonth_le (y m : Nat) : daysInMonth y m ≤ 31 := by
  unfold daysInMonth; split <;> (try split) <;> omega

theorem yearStart_eq (y : Nat) : y * 365 + y / 4 - y / 100 = yearStart y := by
  rw [Nat.mul_comm]; rfl

theorem yearStart_succ : ∀ y, y < 399 → yearStart (y + 1) = yearStart y + 365 +
    (if (y + 1) % 4 = 0 ∧ ((y + 1) % 100 ≠ 0 ∨ (y + 1) % 400 = 0) then 1 else 0) := by
  decide +kernel

theorem yearStart_mono {a b : Nat} (h : a ≤ b) : yearStart a ≤ yearStart b := by
  unfold yearStart
  have h4 : a / 4 ≤ b / 4 := Nat.div_le_div_right h
  omega

/-- why the estimate `doe / 366` of `yearOfEra` is never too large and at most one too small -/
theorem yearStart_bounds (y : Nat) : yearStart y ≤ 366 * y ∧ (y ≤ 398 → 366 * y ≤ yearStart (y + 1)) := by
  unfold yearStart; omega

theorem yoe_le (doe : Nat) (h : doe < 146097) : yearOfEra doe ≤ 399 := by
  unfold yearOfEra; simp only []; split <;> omega
theorem yoe_lo (doe : Nat) : yearStart (yearOfEra doe) ≤ doe := by
  unfold yearOfEra; simp only []
  split
  · exact ‹_ ∧ _›.1
  · have := (yearStart_bounds (doe / 366)).1; omega
theorem yoe_next (doe : Nat) : yearOfEra doe < 399 → doe < yearStart (yearOfEra doe + 1) := by
  unfold yearOfEra; simp only []
  split
  · have := (yearStart_bounds (doe / 366 + 1)).2; omega
  · omega

theorem yoe_unique (doe yoe : Nat) (hd : doe < 146097) (h1 : yoe ≤ 399) (h2 : yearStart yoe ≤ doe)
    (h3 : yoe < 399 → doe < yearStart (yoe + 1)) : yearOfEra doe = yoe := by
  have a := yoe_le doe hd
  have b := yoe_lo doe
  have c := yoe_next doe
  generalize yearOfEra doe = Y at *
  rcases Nat.lt_trichotomy Y yoe with h | h | h
  · have m := yearStart_mono (show Y + 1 ≤ yoe by omega)
    omega
  · exact h
  · have m := yearStart_mono (show yoe + 1 ≤ Y by omega)
    omega

/-- every day number has its components: era, March-based year of the era, day of that year; the 366th day exists only when
the civil year that follows is a leap year -/
theorem day_components (z : Nat) : ∃ era yoe doy, yoe ≤ 399 ∧ z = era * 146097 + (yoe * 365 + yoe / 4 - yoe / 100 + doy) ∧
    doy ≤ 365 ∧ (doy = 365 → (yoe + 1) % 4 = 0 ∧ ((yoe + 1) % 100 ≠ 0 ∨ (yoe + 1) % 400 = 0)) := by
  have hdoe : z % 146097 < 146097 := Nat.mod_lt _ (by decide)
  have hle := yoe_le _ hdoe
  have hnext := yoe_next (z % 146097)
  refine ⟨z / 146097, _, z % 146097 - yearStart (yearOfEra (z % 146097)), hle,
    by rw [yearStart_eq, Nat.add_sub_cancel' (yoe_lo _), Nat.div_add_mod'], ?_⟩
  generalize yearOfEra (z % 146097) = y at *
  by_cases hy : y < 399
  · have hs := yearStart_succ y hy
    have := hnext hy
    split at hs
    · exact ⟨by omega, fun _ => ‹_›⟩
    · exact ⟨by omega, fun h => absurd h (by omega)⟩
  · -- the last year of the era ends with the era
    obtain rfl : y = 399 := by omega
    have : yearStart 399 = 145731 := rfl
    omega

theorem mp_eq_iff (doy mp : Nat) :
    (5 * doy + 2) / 153 = mp ↔ (153 * mp + 2) / 5 ≤ doy ∧ doy < (153 * (mp + 1) + 2) / 5 := by
  omega

/-- March … January end where the next month begins (February ends with the year) -/
theorem monthStart_succ (y : Nat) : ∀ mp, mp ≤ 10 →
    (153 * (mp + 1) + 2) / 5 = (153 * mp + 2) / 5 + daysInMonth y (if mp < 10 then mp + 3 else mp - 9)
  | 0, _ | 1, _ | 2, _ | 3, _ | 4, _ | 5, _ | 6, _ | 7, _ | 8, _ | 9, _ | 10, _ => rfl
  | _ + 11, h => absurd h (by omega)

theorem civilOfDays_compose (era yoe doy mp d : Nat) (h1 : yoe ≤ 399) (hdoy : doy ≤ 365)
    (hleap : doy = 365 → ((yoe + 1) % 4 = 0 ∧ ((yoe + 1) % 100 ≠ 0 ∨ (yoe + 1) % 400 = 0)))
    (hmp : (5 * doy + 2) / 153 = mp) (hd : doy - (153 * mp + 2) / 5 + 1 = d) :
    civilOfDays (era * 146097 + (yoe * 365 + yoe / 4 - yoe / 100 + doy)) =
      (if (if mp < 10 then mp + 3 else mp - 9) ≤ 2 then yoe + era * 400 + 1 else yoe + era * 400,
       if mp < 10 then mp + 3 else mp - 9, d) := by
  rw [yearStart_eq, Nat.add_comm (era * 146097)]
  have hb : yearStart yoe + doy < 146097 := by
    have := yearStart_mono h1
    have : yearStart 399 = 145731 := rfl
    omega
  obtain ⟨e1, e2⟩ := add_mul_div_mod era hb
  have e3 : yearOfEra (yearStart yoe + doy) = yoe := by
    apply yoe_unique _ yoe hb h1 (by omega)
    intro hlt
    rw [yearStart_succ yoe hlt]
    by_cases h365 : doy = 365
    · rw [if_pos (hleap h365)]; omega
    · omega
  unfold civilOfDays
  simp only [e1, e2, e3, Nat.add_sub_cancel_left, hmp, hd]

theorem daysOfCivil_compose (era yoe mp d : Nat) (h1 : yoe ≤ 399) (hmp : mp ≤ 11) :
    daysOfCivil (if (if mp < 10 then mp + 3 else mp - 9) ≤ 2 then yoe + era * 400 + 1 else yoe + era * 400)
      (if mp < 10 then mp + 3 else mp - 9) d =
    era * 146097 + (yearStart yoe + ((153 * mp + 2) / 5 + d - 1)) := by
  obtain ⟨q1, q2⟩ := add_mul_div_mod era (Nat.lt_succ_of_le h1)
  unfold daysOfCivil
  by_cases h : mp < 10
  · have e1 : ¬ mp + 3 ≤ 2 := by omega
    have e2 : mp + 3 > 2 := by omega
    simp only [h, if_true, e1, e2, if_false, Nat.add_sub_cancel, q1, q2, yearStart_eq]
  · have e1 : mp - 9 ≤ 2 := by omega
    have e2 : ¬ mp - 9 > 2 := by omega
    have e3 : mp - 9 + 9 = mp := by omega
    simp only [h, if_false, e1, e2, if_true, e3, Nat.add_sub_cancel, q1, q2, yearStart_eq]

theorem daysOfCivil_civilOfDays (z : Nat) :
    daysOfCivil (civilOfDays z).1 (civilOfDays z).2.1 (civilOfDays z).2.2 = z := by
  obtain ⟨era, yoe, doy, h1, rfl, h2, h3⟩ := day_components z
  rw [civilOfDays_compose era yoe doy _ _ h1 h2 h3 rfl rfl]
  simp only []
  rw [daysOfCivil_compose _ _ _ _ h1 (by omega), yearStart_eq]
  omega

theorem civilOfDays_valid (z : Nat) :
    1 ≤ (civilOfDays z).2.1 ∧ (civilOfDays z).2.1 ≤ 12 ∧ 1 ≤ (civilOfDays z).2.2 ∧
    (civilOfDays z).2.2 ≤ daysInMonth (civilOfDays z).1 (civilOfDays z).2.1 := by
  obtain ⟨era, yoe, doy, h1, rfl, hhi, hleap⟩ := day_components z
  obtain ⟨hm1, hm2⟩ := (mp_eq_iff doy _).mp rfl
  rw [civilOfDays_compose era yoe doy _ _ h1 hhi hleap rfl rfl]
  simp only []
  generalize (5 * doy + 2) / 153 = mp at *
  by_cases hmp : mp ≤ 10
  · have ht := monthStart_succ (if (if mp < 10 then mp + 3 else mp - 9) ≤ 2 then yoe + era * 400 + 1
      else yoe + era * 400) mp hmp
    exact ⟨by split <;> omega, by split <;> omega, by omega⟩
  · obtain rfl : mp = 11 := by omega
    refine ⟨by decide, by decide, by omega, ?_⟩
    show _ ≤ daysInMonth (yoe + era * 400 + 1) 2
    rw [dim_feb, Nat.add_right_comm, isLeap_add_era]
    split
    · omega
    · have : doy ≠ 365 := fun h => ‹¬ _› ((isLeap_iff _).mpr (hleap h))
      omega

theorem civilOfDays_daysOfCivil (y m d : Nat) (hy : 1 ≤ y) (hm1 : 1 ≤ m) (hm2 : m ≤ 12) (hd1 : 1 ≤ d)
    (hd2 : d ≤ daysInMonth y m) : civilOfDays (daysOfCivil y m d) = (y, m, d) := by
  unfold daysOfCivil
  generalize hmp : (if m > 2 then m - 3 else m + 9) = mp
  generalize hY : (if m ≤ 2 then y - 1 else y) = Y
  have hm : (if mp < 10 then mp + 3 else mp - 9) = m := by subst hmp; split <;> split <;> omega
  have hyr : (if m ≤ 2 then Y % 400 + Y / 400 * 400 + 1 else Y % 400 + Y / 400 * 400) = y := by
    rw [Nat.mod_add_div']; subst hY; split <;> omega
  -- the day of the March-based year is the 366th only on 29 February of a leap year, and lies in month `mp`
  have key : ((153 * mp + 2) / 5 + d - 1 = 365 → isLeap (Y % 400 + 1) = true) ∧
      (153 * mp + 2) / 5 + d - 1 < (153 * (mp + 1) + 2) / 5 ∧ (153 * mp + 2) / 5 + d - 1 ≤ 365 := by
    by_cases h10 : mp ≤ 10
    · -- March … January: the month ends where the next begins
      have ht := monthStart_succ y mp h10
      rw [hm] at ht
      exact ⟨fun h => by omega, by omega⟩
    · -- February ends with the March-based year
      obtain ⟨rfl, rfl⟩ : m = 2 ∧ mp = 11 := by split at hmp <;> omega
      rw [dim_feb, ← hyr, if_pos (Nat.le_refl 2), Nat.add_right_comm, isLeap_add_era] at hd2
      split at hd2
      · exact ⟨fun _ => ‹_›, by omega⟩
      · exact ⟨fun h => by omega, by omega⟩
  rw [civilOfDays_compose _ _ _ mp d (by omega) key.2.2 (fun h => (isLeap_iff _).mp (key.1 h))
    ((mp_eq_iff _ _).mpr ⟨by omega, key.2.1⟩) (by omega), hm, hyr]

/-- 306 is 0001-01-01, 3652364 is 9999-12-31 -/
theorem civil_year_bounds (z : Nat) (h1 : 306 ≤ z) (h2 : z ≤ 3652364) :
    1 ≤ (civilOfDays z).1 ∧ (civilOfDays z).1 ≤ 9999 := by
  obtain ⟨era, yoe, doy, hle, rfl, hhi, hleap⟩ := day_components z
  rw [civilOfDays_compose era yoe doy _ _ hle hhi hleap rfl rfl]
  rw [yearStart_eq] at h1 h2
  -- only the first and the last March-based year of the range matter: January begins on their day 306
  have h0 : yoe = 0 → yearStart yoe = 0 := by rintro rfl; rfl
  have h399 : yoe = 399 → yearStart yoe = 145731 := by rintro rfl; rfl
  generalize hmp : (5 * doy + 2) / 153 = mp
  by_cases hd : mp < 10
  · simp only [hd, if_true, show ¬ mp + 3 ≤ 2 by omega, if_false]
    omega
  · simp only [hd, if_false, show mp - 9 ≤ 2 by omega, if_true]
    omega

/-- the first day of March-based year `Y` (all eras) grows with `Y` -/
theorem marchStart_mono {Y Y' : Nat} (h : Y ≤ Y') :
    Y / 400 * 146097 + yearStart (Y % 400) ≤ Y' / 400 * 146097 + yearStart (Y' % 400) := by
  have h1 := yearStart_mono (show Y % 400 ≤ 399 by omega)
  have h2 : yearStart 399 = 145731 := rfl
  by_cases he : Y / 400 = Y' / 400
  · have := yearStart_mono (show Y % 400 ≤ Y' % 400 by omega)
    omega
  · omega

/-- 3652364 is 9999-12-31 -/
theorem daysOfCivil_le (y m d : Nat) (hy1 : 1 ≤ y) (hy : y ≤ 9999) (hm1 : 1 ≤ m) (hm2 : m ≤ 12) (hd1 : 1 ≤ d)
    (hd : d ≤ 31) : daysOfCivil y m d ≤ 3652364 := by
  unfold daysOfCivil
  simp only [yearStart_eq]
  by_cases h : m ≤ 2
  · -- January, February: at most day index 366 (0-based: 337 + 31 − 2) of March-based year 9998
    have := marchStart_mono (show y - 1 ≤ 9998 by omega)
    have : 9998 / 400 * 146097 + yearStart (9998 % 400) = 3651694 := rfl
    rw [if_pos h, if_neg (by omega)]
    omega
  · -- March … December: at most day index 305 (0-based: 275 + 31 − 1) of March-based year 9999
    have := marchStart_mono hy
    have : 9999 / 400 * 146097 + yearStart (9999 % 400) = 3652059 := rfl
    rw [if_neg h, if_pos (by omega)]
    omega

theorem fieldsOfSecondsZ_eq (s : Nat) : fieldsOfSecondsZ s =
    ⟨(civilOfDays (s / 86400)).1, (civilOfDays (s / 86400)).2.1, (civilOfDays (s / 86400)).2.2,
     s % 86400 / 3600, s % 86400 % 3600 / 60, s % 86400 % 60⟩ := rfl

theorem secondsZ_fieldsOfSecondsZ (s : Nat) : secondsZ (fieldsOfSecondsZ s) = s := by
  rw [fieldsOfSecondsZ_eq]
  unfold secondsZ
  simp only [daysOfCivil_civilOfDays]
  omega

theorem hms_of_seconds (t D h mi s : Nat) (hh : h ≤ 23) (hmi : mi ≤ 59) (hs : s ≤ 59)
    (ht : t = D * 86400 + h * 3600 + mi * 60 + s) :
    t / 86400 = D ∧ t % 86400 / 3600 = h ∧ t % 86400 % 3600 / 60 = mi ∧ t % 86400 % 60 = s := by
  omega

theorem hms_le (s : Nat) : s % 86400 / 3600 ≤ 23 ∧ s % 86400 % 3600 / 60 ≤ 59 ∧ s % 86400 % 60 ≤ 59 := by
  omega

theorem fieldsOfSecondsZ_secondsZ (f : Fields) (h : f.Valid) : fieldsOfSecondsZ (secondsZ f) = f := by
  obtain ⟨a1, _, a3, a4, a5, a6, a7, a8, a9⟩ := h
  obtain ⟨e1, e2, e3, e4⟩ := hms_of_seconds (secondsZ f) _ _ _ _ a7 a8 a9 rfl
  rw [fieldsOfSecondsZ_eq, e1, e2, e3, e4, civilOfDays_daysOfCivil _ _ _ a1 a3 a4 a5 a6]

theorem Fields.Valid.inRange {f : Fields} (h : f.Valid) : f.InRange := by
  have := daysInMonth_le f.year f.month
  unfold Fields.Valid at h
  unfold Fields.InRange
  omega

theorem fieldsOfSecondsZ_valid (s : Nat) (h1 : 306 * 86400 ≤ s) (h2 : s < 3652365 * 86400) :
    (fieldsOfSecondsZ s).Valid ∧ (fieldsOfSecondsZ s).InRange := by
  obtain ⟨y1, y2⟩ := civil_year_bounds (s / 86400) (by omega) (by omega)
  obtain ⟨v1, v2, v3, v4⟩ := civilOfDays_valid (s / 86400)
  have hv : (fieldsOfSecondsZ s).Valid := ⟨y1, y2, v1, v2, v3, v4, hms_le s⟩
  exact ⟨hv, hv.inRange⟩

theorem yearOk_iff (s : Int) : yearOk s = true ↔ 306 * 86400 ≤ s ∧ s < 3652365 * 86400 := by
  simp [yearOk]

theorem fromTimestamp_ok (off t : Int) (h1 : yearOk (t + off + (epochZ * 86400 : Nat)) = true)
    (h2 : yearOk (t + off + (epochZ * 86400 : Nat) - 86400) = true) :
    ∃ v, fromTimestamp off t = .ok v ∧ (fields v).Valid ∧
      (secondsZ (fields v) : Int) = t + off + (epochZ * 86400 : Nat) := by
  unfold fromTimestamp
  simp only [h1, h2, Bool.and_self, if_true]
  refine ⟨_, rfl, ?_⟩
  rw [yearOk_iff] at h1
  obtain ⟨hv, hr⟩ := fieldsOfSecondsZ_valid (t + off + (epochZ * 86400 : Nat)).toNat (by omega) (by omega)
  rw [fields_make _ hr, secondsZ_fieldsOfSecondsZ]
  exact ⟨hv, by omega⟩

/-- valid date-times lie before the year 10000 -/
theorem secondsZ_lt (f : Fields) (h : f.Valid) : secondsZ f < 3652365 * 86400 := by
  obtain ⟨a1, a2, a3, a4, a5, a6, a7, a8, a9⟩ := h
  have := daysOfCivil_le _ _ _ a1 a2 a3 a4 a5 (Nat.le_trans a6 (daysInMonth_le _ _))
  unfold secondsZ
  omega

end Nx.Nex.DateTime
