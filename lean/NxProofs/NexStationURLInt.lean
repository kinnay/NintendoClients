import NxModel.Nex.StationURL
/-! `int(str(n)) = n` for the modelled `int()` / `str()` of Python -/
namespace Nx.Nex.StationURL

theorem digit_bounds {c : Char} (h : c.isDigit = true) : 48 ≤ c.toNat ∧ c.toNat ≤ 57 := by
  simp only [Char.isDigit, Bool.and_eq_true, decide_eq_true_eq] at h
  exact ⟨UInt32.le_iff_toNat_le.mp h.1, UInt32.le_iff_toNat_le.mp h.2⟩

theorem digit_not_space {c : Char} (h : c.isDigit = true) : isPySpace c = false := by
  have ⟨a, b⟩ := digit_bounds h
  unfold isPySpace
  simp only [Bool.or_eq_false_iff, Bool.and_eq_false_iff, decide_eq_false_iff_not, beq_eq_false_iff_ne]
  omega

/-- a run of digits is accepted as it stands; an empty one only after a digit -/
theorem digitsUS_digits (prev : Bool) (l : Str) (hne : l ≠ [] ∨ prev = true) (h : ∀ c ∈ l, c.isDigit = true) :
    digitsUS prev l = some l := by
  induction l generalizing prev with
  | nil =>
    rcases hne with hne | rfl
    · exact absurd rfl hne
    · rfl
  | cons c r ih =>
    simp only [digitsUS, h c (by simp), if_true, ih true (Or.inr rfl) (fun x hx => h x (by simp [hx])), Option.map_some]

theorem trim_id (p : Char → Bool) (l : Str) (hh : ∀ c, l.head? = some c → p c = false)
    (hl : ∀ c, l.getLast? = some c → p c = false) : ((l.dropWhile p).reverse.dropWhile p).reverse = l := by
  have d1 : ∀ m : Str, (∀ c, m.head? = some c → p c = false) → m.dropWhile p = m := by
    intro m hm
    cases m with
    | nil => rfl
    | cons c r => simp [List.dropWhile, hm c rfl]
  rw [d1 l hh, d1 l.reverse (by simpa [List.head?_reverse] using hl), List.reverse_reverse]

theorem natDigits_digits (n : Nat) : ∀ c ∈ natDigits n, c.isDigit = true :=
  fun _ hc => Nat.isDigit_of_mem_toDigits (by omega) (by omega) hc

/-- `int()` of a non-empty run of decimal digits, bare or behind a minus sign: nothing is stripped, the sign is split off,
the digits are read -/
theorem pyInt_digits (l : Str) (hne : l ≠ []) (hd : ∀ c ∈ l, c.isDigit = true) :
    pyInt l = some (Nat.ofDigitChars 10 l 0 : Int) ∧ pyInt ('-' :: l) = some (-(Nat.ofDigitChars 10 l 0 : Int)) := by
  have hlast : ∀ c, l.getLast? = some c → isPySpace c = false :=
    fun c hc => digit_not_space (hd c (List.mem_of_mem_getLast? hc))
  constructor
  · have ht : ((l.dropWhile isPySpace).reverse.dropWhile isPySpace).reverse = l :=
      trim_id _ _ (fun c hc => digit_not_space (hd c (List.mem_of_mem_head? hc))) hlast
    cases l with
    | nil => exact absurd rfl hne
    | cons c r =>
      have ⟨b1, _⟩ := digit_bounds (hd c (by simp))
      have hs : signSplit (c :: r) = (false, c :: r) := by
        unfold signSplit
        split
        · rename_i heq; injection heq with e _; subst e; exact absurd b1 (by decide)
        · rename_i heq; injection heq with e _; subst e; exact absurd b1 (by decide)
        · rfl
      simp only [pyInt, ht, hs, digitsUS_digits false _ (Or.inl hne) hd]
      rfl
  · have ht : ((('-' :: l).dropWhile isPySpace).reverse.dropWhile isPySpace).reverse = '-' :: l := by
      apply trim_id
      · intro c hc; simp at hc; subst hc; decide
      · intro c hc; rw [List.getLast?_cons_of_ne_nil hne] at hc; exact hlast c hc
    have hs : signSplit ('-' :: l) = (true, l) := rfl
    simp only [pyInt, ht, hs, digitsUS_digits false _ (Or.inl hne) hd]
    rfl

theorem pyInt_natDigits (n : Nat) : pyInt (natDigits n) = some (n : Int) := by
  rw [(pyInt_digits (natDigits n) Nat.toDigits_ne_nil (natDigits_digits n)).1, natDigits, Nat.ofDigitChars_ten_toDigits]

theorem pyInt_intStr (v : Int) : pyInt (intStr v) = some v := by
  unfold intStr
  split
  · rw [(pyInt_digits (natDigits _) Nat.toDigits_ne_nil (natDigits_digits _)).2, natDigits, Nat.ofDigitChars_ten_toDigits]
    congr 1; omega
  · rw [pyInt_natDigits]
    congr 1; omega

theorem dictGet_strVals (k : Str) (ps : List (Str × PVal)) :
    dictGet k (ps.map fun p => (p.1, PVal.s p.2.render)) = (dictGet k ps).map fun v => PVal.s v.render := by
  induction ps with
  | nil => rfl
  | cons p r ih =>
    obtain ⟨k', v⟩ := p
    simp only [List.map, dictGet]
    split
    · rfl
    · exact ih

/-- `u[field]` is the same on a URL and on the URL with every value rendered to text (what `parse (repr u)` holds):
string parameters, int parameters held as ints (`int(str(v)) = v`) or as text, absent ones, unknown names -/
theorem getitem_strVals (u : URL) (field : Str) : getitem (strVals u) field = getitem u field := by
  unfold getitem strVals
  simp only [dictGet_strVals]
  split
  · cases dictGet field u.params with
    | none => rfl
    | some v => cases v <;> rfl
  · split
    · cases dictGet field u.params with
      | none => rfl
      | some v =>
        cases v with
        | s v => rfl
        | i v => simp only [Option.map_some, PVal.render, pyInt_intStr]
    · rfl

end Nx.Nex.StationURL
