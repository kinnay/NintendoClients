import NxModel.Switch.All
import NxProofs.ApiSetSeq
/-!
# C20 — the setters of the HTTP clients

Effect: `out (s[k := v₁]) input ≠ out (s[k := v₂]) input`, for *every* pair of distinct values where the field is copied verbatim
(`dauth_set_host`), with explicit witness pairs otherwise (`nnasWitness`, `nascWitness`, evaluated in `NxProps/C20`).
Place: the arguments of a nnas / nasc setter are members of the literal header / form list (`*_carried`); nnas setters of different
attribute groups commute (`nnas_apply_apply` in `ApiSetSeq.lean`), so a later setter of another group leaves them there (for nasc only
"the later call of the same setter wins" is proved).
-/
namespace Nx.Api
open Nx.Http Nx.Switch

/-- the hosts handed to the request callback -/
def hostsOf (r : Except Err (List Sent)) : List String := match r with | .ok l => l.map (·.1) | .error _ => []
/-- the value of header `name` in every request -/
def hdrOf (name : String) (r : Except Err (List Sent)) : List (Option String) :=
  match r with | .ok l => l.map fun x => (x.2.headers.find? (·.1 == name)).map (·.2) | .error _ => []
def formOf (key : String) (r : Except Err (List Sent)) : List (Option (Option String)) :=
  match r with
  | .ok l => l.map fun x => match x.2.body with
    | .form f => (f.find? (·.1 == key)).map (·.2)
    | .rawform f => (f.find? (·.1 == key)).map (·.2)
    | _ => none
  | .error _ => []

theorem dauth_set_host (s : Dauth) (h₁ h₂ : String) (hne : h₁ ≠ h₂) :
    hostsOf (({ s with host := h₁ }).call .challenge) ≠ hostsOf (({ s with host := h₂ }).call .challenge) ∧
    hdrOf "Host" (({ s with host := h₁ }).call .challenge) ≠ hdrOf "Host" (({ s with host := h₂ }).call .challenge) := by
  constructor
  · simp [hostsOf, Dauth.call, Dauth.challengeReq, hne]
  · by_cases hv : s.version < 1800 <;> simp [hdrOf, Dauth.call, Dauth.challengeReq, Dauth.headers, hv, hne]

/-! ### nnas: ten setters, two values each, observed on `login` (url + headers) -/

def nnasWitness : List (NnasSet × NnasSet) :=
  [(.url "a", .url "b"), (.clientId "a", .clientId "b"), (.clientSecret "a", .clientSecret "b"), (.platformId 0, .platformId 1),
   (.deviceType 1, .deviceType 2), (.device 1 "s" 0x260 none, .device 2 "s" 0x260 none), (.locale 1 "NL" "en", .locale 2 "NL" "en"),
   (.fpdVersion 0, .fpdVersion 1), (.environment "L1", .environment "D1"), (.title 0x10 1, .title 0x20 1)]

def nnasObs (s : Nnas) : String × Hdrs := ((s.login "u" "p" none).1, (s.login "u" "p" none).2.headers)

/-! ### nasc: ten setters, observed on `login` (url, headers, raw form fields) -/

def nascBase : Nasc :=
  { bssId := "00", titleId := some 1, serialNumber := some "S", pid := some 1, pidHmac := some "h" }

def nascWitness : List (NascSet × NascSet) :=
  [(.url "a", .url "b"), (.sdkVersion 0 0, .sdkVersion 1 2), (.title 1 0 "----" "00" 0 none, .title 2 0 "----" "00" 0 none),
   (.device "S" "m" [] "" "2", .device "T" "m" [] "" "2"), (.network "a" "i", .network "b" "i"), (.locale 1 2, .locale 3 2),
   (.user 1 "h", .user 2 "h"), (.password "a", .password "b"), (.fpdVersion 15, .fpdVersion 16), (.environment "L1", .environment "D1")]

def nascObs (r : Except Err Nasc) : Option (String × Hdrs × List (String × RawV)) :=
  match r with
  | .ok s => match s.titleId, s.serialNumber with
    | some t, some n => some (s.url, s.loginHeaders 7, s.rawFields t n 7 "n" "t")
    | _, _ => none
  | .error _ => none

theorem nnas_setter_carried (s : Nnas) (st : NnasSet) (auth cert : Option String) :
    ∀ f ∈ st.fields, f ∈ (s.apply st).prepare auth cert := by
  -- membership in the literal header list, found by position: plain `simp` also decides every failing comparison of names
  cases st <;> simp only [NnasSet.fields, Nnas.apply, Nnas.prepare, List.mem_cons, List.mem_append, List.not_mem_nil, or_false,
    forall_eq_or_imp, forall_eq, true_or, or_true, and_self]

theorem prepare_default_names (auth cert : Option String) :
    (({} : Nnas).prepare auth cert).map (·.1) =
      ["Host", "X-Nintendo-Platform-ID", "X-Nintendo-Device-Type", "X-Nintendo-System-Version", "X-Nintendo-Region",
       "X-Nintendo-Country", "Accept-Language", "X-Nintendo-Client-ID", "X-Nintendo-Client-Secret", "Accept",
       "X-Nintendo-FPD-Version", "X-Nintendo-Environment"] ++
      (if cert.isSome then ["X-Nintendo-Device-Cert"] else []) ++ (if auth.isSome then ["Authorization"] else []) := by
  cases auth <;> cases cert <;> rfl

/-- docs/reference/nnas.md, `set_title`: "By default, these headers are omitted." (`set_device` likewise) -/
theorem nnas_optional_omitted (auth cert : Option String) : ∀ p ∈ ({} : Nnas).prepare auth cert, p.1 ∉ nnasOptionalHeaders := by
  intro p hp
  have hn : p.1 ∈ _ := prepare_default_names auth cert ▸ List.mem_map_of_mem hp
  revert hn
  generalize cert.isSome = c, auth.isSome = a, p.1 = n
  revert c a n
  decide +kernel

theorem Nasc.form_eq_some {s : Nasc} {g : Nat} {nick dt : String} {F : List (String × RawV)} (h : s.form g nick dt = some F) :
    ∃ t n, s.titleId = some t ∧ s.serialNumber = some n ∧ F = s.rawFields t n g nick dt := by
  unfold Nasc.form at h
  split at h
  next t n ht hn => exact ⟨t, n, ht, hn, (Option.some.inj h).symm⟩
  next => cases h

theorem nasc_setter_carried (s s' : Nasc) (st : NascSet) (h : s.apply st = .ok s') (g : Nat) (nick dt : String)
    (F : List (String × RawV)) (hF : s'.form g nick dt = some F) : ∀ f ∈ st.fields, f ∈ F := by
  obtain ⟨t, n, ht, hn, rfl⟩ := Nasc.form_eq_some hF
  cases st
  case title id v pc mc mt rom =>
    have := apply_ok_title h; subst this
    cases ht
    by_cases hm : mt = 2 <;>
      simp only [NascSet.fields, Nasc.rawFields, hm, ↓reduceIte, List.mem_cons, List.mem_append, List.not_mem_nil, or_false,
        or_imp, forall_and, forall_eq, true_or, or_true, and_self]
  all_goals
    cases h
    -- `set_device` supplies the serial number the form was built with
    try cases hn
    simp only [NascSet.fields, Nasc.rawFields, List.mem_cons, List.mem_append, List.not_mem_nil, or_false,
      forall_eq_or_imp, forall_eq, true_or, or_true, and_self, false_imp_iff, implies_true, Option.getD_some]

theorem nasc_setter_hdr_carried (s s' : Nasc) (st : NascSet) (h : s.apply st = .ok s') (g : Nat) :
    ∀ f ∈ st.hdrFields, f ∈ s'.loginHeaders g := by
  cases st
  case title id v pc mc mt rom => simp [NascSet.hdrFields]
  all_goals
    cases h
    simp only [NascSet.hdrFields, Nasc.loginHeaders, List.mem_cons, List.not_mem_nil, or_false, forall_eq, true_or, or_true,
      false_imp_iff, implies_true]

end Nx.Api
