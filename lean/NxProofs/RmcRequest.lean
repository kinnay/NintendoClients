import NxModel.Nex.RmcRequest
import NxProofs.Bytes
/-! The request reader (`NxModel/Nex/RmcRequest.lean`). `Local f`: whenever the reader `f` succeeds it has consumed a prefix `c` of
its input, the result does not depend on what follows `c` (which is handed on untouched), and on every proper prefix of `c` —
a stream that ends early — `f` fails with `OverflowError`. Every reader of the model is `Local` (`decTy_local`,
`decItems_local`, `decObj_local`, `decArgs_local`); with the bounded copy a structure frame is read from
(`C11.struct_frame_is_bounded`) this gives `C11.short_frame_rejected`. -/
namespace Nx.RmcRequest

def Local {α : Type} (f : Rd α) : Prop :=
  ∀ b v r, f b = .ok (v, r) →
    ∃ c, b = c ++ r ∧ (∀ r', f (c ++ r') = .ok (v, r')) ∧ (∀ k, k < c.length → f (c.take k) = .error .overflow)

theorem Local.pure {α : Type} (a : α) : Local (Rd.pure a) := by
  intro b v r h
  obtain ⟨rfl, rfl⟩ := h
  exact ⟨[], rfl, fun r' => rfl, fun k hk => absurd hk (by simp)⟩

theorem Local.fail {α : Type} (e : Err) : Local (Rd.fail e : Rd α) := by
  intro b v r h; simp [Rd.fail] at h

theorem Local.lift {α : Type} : (x : Except Err α) → Local (Rd.lift x)
  | .ok a => Local.pure a
  | .error e => Local.fail e

theorem Local.seq {α β : Type} {f : Rd α} {g : α → Rd β} (hf : Local f) (hg : ∀ a, Local (g a)) : Local (f.seq g) := by
  intro b v r h
  unfold Rd.seq at h
  cases hfb : f b with
  | error e => rw [hfb] at h; simp at h
  | ok p =>
    obtain ⟨a, r1⟩ := p
    rw [hfb] at h
    obtain ⟨c1, hb, h2, h3⟩ := hf b a r1 hfb
    obtain ⟨c2, hr1, g2, g3⟩ := hg a r1 v r h
    refine ⟨c1 ++ c2, by rw [hb, hr1, List.append_assoc], ?_, ?_⟩
    · intro r'
      unfold Rd.seq
      rw [List.append_assoc, h2 (c2 ++ r')]
      exact g2 r'
    · intro k hk
      unfold Rd.seq
      by_cases hk1 : k < c1.length
      · rw [List.take_append_of_le_length (Nat.le_of_lt hk1), h3 k hk1]
      · have hle : c1.length ≤ k := Nat.le_of_not_lt hk1
        have : (c1 ++ c2).take k = c1 ++ c2.take (k - c1.length) := by
          rw [List.take_append]
          rw [List.take_of_length_le hle]
        rw [this, h2]
        apply g3
        simp only [List.length_append] at hk
        omega

theorem Local.map {α β : Type} {f : Rd α} (h : α → β) (hf : Local f) : Local (Rd.map h f) :=
  Local.seq hf fun a => Local.pure (h a)

theorem Local.ite {α : Type} {p : Prop} [Decidable p] {f g : Rd α} (hf : Local f) (hg : Local g) :
    Local (if p then f else g) := by
  by_cases hp : p
  · simp only [if_pos hp]; exact hf
  · simp only [if_neg hp]; exact hg

theorem rdN_local (n : Nat) : Local (rdN n) := by
  intro b v r h
  obtain ⟨rfl, hl⟩ := rd_inv h
  exact ⟨v, rfl, fun r' => rd_append' v r' hl, fun k hk => rd_short (by simp [List.length_take]; omega)⟩

theorem rdLeNat_local (k : Nat) : Local (rdLeNat k) := by
  have e : rdLeNat k = Rd.map leNat (rdN k) := by
    funext b
    unfold rdLeNat Rd.map Rd.seq Rd.pure rdN
    cases rd k b <;> rfl
  exact e ▸ Local.map _ (rdN_local k)

theorem rdU8_local : Local (rdU8 : Rd Nat) := (funext rdU8_eq : rdU8 = rdLeNat 1) ▸ rdLeNat_local 1
theorem rdU16_local : Local (rdU16 : Rd Nat) := (funext rdU16_eq : rdU16 = rdLeNat 2) ▸ rdLeNat_local 2
theorem rdU32_local : Local (rdU32 : Rd Nat) := (funext rdU32_eq : rdU32 = rdLeNat 4) ▸ rdLeNat_local 4

theorem rdU64_eq : (rdU64 : Rd Nat) = Rd.seq rdU32 fun lo => Rd.map (fun hi => lo + 4294967296 * hi) rdU32 := by
  funext b
  unfold rdU64 Rd.seq Rd.map Rd.seq Rd.pure
  cases h1 : rdU32 b with
  | error e => rfl
  | ok p =>
    obtain ⟨lo, r⟩ := p
    simp only []
    cases h2 : rdU32 r with
    | error e => rfl
    | ok q => obtain ⟨hi, r'⟩ := q; rfl

theorem rdU64_local : Local (rdU64 : Rd Nat) := by
  rw [rdU64_eq]
  exact Local.seq rdU32_local fun lo => Local.map _ rdU32_local

theorem decStr_local : Local decStr :=
  Local.seq rdU16_local fun n =>
    Local.ite (Local.pure none) (Local.seq (rdN_local n) fun _ => Local.ite (Local.pure _) (Local.fail _))

theorem decBuf_local : Local decBuf := Local.seq rdU32_local rdN_local
theorem decQBuf_local : Local decQBuf := Local.seq rdU16_local rdN_local

theorem decVariant_local : Local decVariant :=
  Local.seq rdU8_local fun _ =>
    Local.ite (Local.pure _) <| Local.ite (Local.map _ rdU64_local) <| Local.ite (Local.map _ rdU64_local) <|
    Local.ite (Local.map _ rdU8_local) <| Local.ite (Local.map _ decStr_local) <| Local.ite (Local.map _ rdU64_local) <|
    Local.ite (Local.map _ rdU64_local) (Local.fail _)

theorem decList_local {f : Rd Val} (hf : Local f) : ∀ n, Local (decList f n)
  | 0 => Local.pure []
  | n + 1 => Local.seq hf fun _ => Local.map _ (decList_local hf n)

theorem decPairs_local {fk fv : Rd Val} (hk : Local fk) (hv : Local fv) : ∀ n, Local (decPairs fk fv n)
  | 0 => Local.pure []
  | n + 1 => Local.seq hk fun _ => Local.seq hv fun _ => Local.map _ (decPairs_local hk hv n)

theorem decTy_local (R : Hook) (env : Env) (hR : ∀ id, Local (R id)) : ∀ t, Local (decTy R env t)
  | .u8 => Local.map _ rdU8_local
  | .u16 => Local.map _ rdU16_local
  | .u32 => Local.map _ rdU32_local
  | .u64 => Local.map _ rdU64_local
  | .s8 => Local.map _ rdU8_local
  | .s16 => Local.map _ rdU16_local
  | .s32 => Local.map _ rdU32_local
  | .s64 => Local.map _ rdU64_local
  | .float => Local.map _ rdU32_local
  | .double => Local.map _ rdU64_local
  | .bool => Local.map _ rdU8_local
  | .string => Local.map _ decStr_local
  | .buffer => Local.map _ decBuf_local
  | .qbuffer => Local.map _ decQBuf_local
  | .datetime => Local.map _ rdU64_local
  | .result => Local.map _ rdU32_local
  | .stationurl => Local.seq decStr_local fun _ => Local.lift _
  | .variant => decVariant_local
  | .list t => Local.seq rdU32_local fun n => Local.map _ (decList_local (decTy_local R env hR t) n)
  | .map k v => Local.seq rdU32_local fun n => Local.map _ (decPairs_local (decTy_local R env hR k) (decTy_local R env hR v) n)
  | .struct id => Local.map _ (hR id)
  | .anydata => Local.seq decStr_local fun _ => Local.seq decBuf_local fun _ => Local.lift _

theorem decItems_local (R : Hook) (env : Env) (hR : ∀ id, Local (R id)) (ver : Nat) : ∀ it, Local (decItems R env ver it)
  | .nil => Local.pure []
  | .field t rest => Local.seq (decTy_local R env hR t) fun _ => Local.map _ (decItems_local R env hR ver rest)
  | .rev k body rest => by
    exact Local.ite (Local.seq (decItems_local R env hR ver body) fun _ => Local.map _ (decItems_local R env hR ver rest))
      (decItems_local R env hR ver rest)

theorem decLevel_local (R : Hook) (env : Env) (hR : ∀ id, Local (R id)) (hdr : Bool) (items : Items) :
    Local (decLevel R env hdr items) := by
  exact Local.ite (Local.seq rdU8_local fun _ => Local.seq decBuf_local fun _ => Local.lift _) (decItems_local R env hR 0 items)

theorem decLevels_local (R : Hook) (env : Env) (hR : ∀ id, Local (R id)) (hdr : Bool) : ∀ ls, Local (decLevels R env hdr ls)
  | [] => Local.pure []
  | l :: ls => Local.seq (decLevel_local R env hR hdr l) fun _ => Local.map _ (decLevels_local R env hR hdr ls)

theorem decObj_local (env : Env) (hdr : Bool) : ∀ f id, Local (decObj env hdr f id)
  | 0, _ => Local.fail _
  | f + 1, id => by
    unfold decObj
    cases lookupStruct env.structs id with
    | none => exact Local.fail _
    | some levels => exact decLevels_local _ env (decObj_local env hdr f) hdr levels

theorem decArgs_local (R : Hook) (env : Env) (hR : ∀ id, Local (R id)) : ∀ ts, Local (decArgs R env ts)
  | [] => Local.pure []
  | t :: ts => Local.seq (decTy_local R env hR t) fun _ => Local.map _ (decArgs_local R env hR ts)

theorem decBuf_frame (frame rest : Bytes) (h : frame.length < 4294967296) :
    decBuf (u32le frame.length ++ frame ++ rest) = .ok (frame, rest) := by
  unfold decBuf Rd.seq
  rw [List.append_assoc, rdU32_u32le _ _ h]
  unfold rdN rd
  simp

/-- a reader that succeeded on `b` fails with OverflowError on every input that ends inside what it consumed -/
theorem Local.truncated {α : Type} {f : Rd α} (hf : Local f) {b : Bytes} {v : α} {r : Bytes} (h : f b = .ok (v, r))
    (k : Nat) (hk : k < b.length - r.length) : f (b.take k) = .error .overflow := by
  obtain ⟨c, hb, _, h3⟩ := hf b v r h
  have hc : c.length = b.length - r.length := by rw [hb]; simp
  rw [hb, List.take_append_of_le_length (by omega)]
  exact h3 k (by omega)

end Nx.RmcRequest
