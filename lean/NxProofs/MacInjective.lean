import NxProofs.PrudpV1
import NxModel.Prudp.Sig
/-! C04: the v1 packet MAC covers every field the receiver acts on. The MAC input omits the two length fields of the
header and concatenates options and payload without a separator; it is nevertheless injective on decodable packets
because the packet type (which is covered) fixes the option set, hence the length of the option block. -/
namespace Nx.Prudp
open Nx.Crypto

/-- what `calc_packet_signature` (v1) feeds into HMAC-MD5 -/
def v1MacInput (accessKey : Bytes) (p : Packet) (sessionKey connSig : Bytes) : Bytes :=
  (v1EncodeHeader p (v1EncodeOptions p).length).drop 4 ++ sessionKey ++ u32le (sumBytes accessKey) ++ connSig ++
    v1EncodeOptions p ++ p.payload

theorem v1PacketSignature_eq (accessKey : Bytes) (p : Packet) (sessionKey connSig : Bytes) :
    v1PacketSignature accessKey p sessionKey connSig = hmacMd5 (md5 accessKey) (v1MacInput accessKey p sessionKey connSig) := by
  simp [v1PacketSignature, v1MacInput, List.append_assoc]

theorem b8_inj {a b : Nat} (ha : a < 256) (hb : b < 256) (h : b8 a = b8 b) : a = b := by
  have := congrArg UInt8.toNat h
  simp only [b8_toNat] at this
  omega

theorem header_drop4 (p : Packet) (n : Nat) : (v1EncodeHeader p n).drop 4 =
    [b8 (pyOr p.sourcePort p.sourceType 4), b8 (pyOr p.destPort p.destType 4),
     b8 (pyOr p.type p.flags 4), b8 (pyOr p.type p.flags 4 / 256), b8 p.sessionId, b8 p.substreamId,
     b8 p.packetId, b8 (p.packetId / 256)] := by
  simp [v1EncodeHeader, u8, u16le]

theorem v1MacInput_injective (accessKey : Bytes) (p q : Packet) (K C : Bytes) (hp : V1WF p) (hq : V1WF q)
    (h : v1MacInput accessKey p K C = v1MacInput accessKey q K C) :
    { p with signature := q.signature } = q := by
  have hty := hp.type_lt; have hfl := hp.flags_lt
  have hty' := hq.type_lt; have hfl' := hq.flags_lt
  unfold v1MacInput at h
  rw [header_drop4, header_drop4] at h
  simp only [List.append_assoc] at h
  obtain ⟨hh, ht⟩ := List.append_inj h (by simp)
  -- the type is covered
  have htf : pyOr p.type p.flags 4 = pyOr q.type q.flags 4 := by
    have e := hh
    simp only [List.cons.injEq] at e
    have lp : pyOr p.type p.flags 4 < 65536 := by rw [pyOr4 _ hty]; omega
    have lq : pyOr q.type q.flags 4 < 65536 := by rw [pyOr4 _ hty']; omega
    exact leBytes_inj (k := 2) lp lq (by show [_, _] = [_, _]; rw [e.2.2.1, e.2.2.2.1])
  have htype : p.type = q.type := by
    rw [pyOr4 _ hty, pyOr4 _ hty'] at htf; omega
  -- hence the option blocks have the same length
  have hol : (v1EncodeOptions p).length = (v1EncodeOptions q).length := by
    rw [v1EncodeOptions_length_eq p hp, v1EncodeOptions_length_eq q hq, htype]
  obtain ⟨_, ht⟩ := List.append_inj ht rfl
  obtain ⟨_, ht⟩ := List.append_inj ht rfl
  obtain ⟨_, ht⟩ := List.append_inj ht rfl
  obtain ⟨hopts, hpay⟩ := List.append_inj ht hol
  -- the two encodings coincide once the signatures do
  have henc : v1Encode { p with signature := q.signature } = v1Encode q := by
    have e1 : v1EncodeOptions { p with signature := q.signature } = v1EncodeOptions p := rfl
    have hd4 : ∀ (x : Packet) (n : Nat), v1EncodeHeader x n = u8 1 ++ u8 n ++ u16le x.payload.length ++ (v1EncodeHeader x n).drop 4 := by
      simp [v1EncodeHeader, u8, u16le]
    unfold v1Encode
    simp only []
    rw [e1, hopts]
    have : v1EncodeHeader { p with signature := q.signature } (v1EncodeOptions q).length = v1EncodeHeader q (v1EncodeOptions q).length := by
      rw [hd4 { p with signature := q.signature }, hd4 q, header_drop4, header_drop4]
      rw [hh, hpay]
    rw [this, hpay]
  have d1 := v1Decode_encode _ (V1WF_setSig p q.signature hp hq.sig)
  have d2 := v1Decode_encode q hq
  rw [henc, d2] at d1
  simpa using d1.symm

end Nx.Prudp
