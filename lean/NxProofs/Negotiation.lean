import NxProofs.HandleForm
/-! C06: the meet (`&&&`) of two offers is a subset of each; `send_connect` (the client's step after adopting a SYN/ACK), the server's
login step and `serve()` leave the three negotiated parameters (`Conn.params`) as they are. What the server's `process_syn` answers:
`ServerStream.processSyn_cases` in `HandleForm.lean`. -/
namespace Nx.L1
open Nx.Prudp

theorem and_subset_right (a b : Nat) : subsetBits (a &&& b) b := by
  unfold subsetBits
  rw [Nat.and_assoc, Nat.and_self, Nat.xor_self]

theorem and_subset_left (a b : Nat) : subsetBits (a &&& b) a :=
  Nat.and_comm b a ▸ and_subset_right b a

/-- the three negotiated parameters: what `configure` sets and what a client adopts from a SYN/ACK -/
def Conn.params (c : Conn) : Nat × Nat × Nat := (c.minorVer, c.maxSub, c.supFuncs)

theorem transmit_params (env : Env) (now : Time) (c : Conn) (p : Packet) : (c.transmit env now p).c.params = c.params := by
  rcases transmit_cases env now c p with ⟨-, h⟩ | ⟨-, h⟩ | ⟨-, h⟩ <;> rw [h]
  · rfl
  · split
    · unfold Conn.arm; cases c.sched <;> rfl
    · rfl

theorem sendConnect_params (env : Env) (now : Time) (c : Conn) : (c.sendConnect env now).c.params = c.params := by
  obtain ⟨q, _, h⟩ := sendConnect_eq env now c
  rw [h]
  split
  · rfl
  · exact transmit_params env now _ _

theorem login_params (c : Conn) (pid cid : Nat) (key : Bytes) : (c.login pid cid key).params = c.params := rfl
theorem serve_params (c : Conn) (now : Time) : (c.serve now).params = c.params := rfl

end Nx.L1
