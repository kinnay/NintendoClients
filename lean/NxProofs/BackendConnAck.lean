import NxModel.Nex.BackendConnAck
import NxProofs.Bytes
/-! the only CONNECT/ACK payload a client with credentials accepts is `u32le 4 ++ u32le (check + 1 mod 2^32)` -/
namespace Nx.Backend

theorem checkResponse_cred (check : Nat) (data : Bytes) :
    checkResponse true check data =
      if data = u32le 4 ++ u32le ((check + 1) % 4294967296) then .ok () else .error .value := by
  -- the model reads the second word from `(data.drop 4).take 4`: on 8 bytes that is `data.drop 4`
  have h : (data.length = 8 ∧ n32le (data.take 4) = 4 ∧ n32le ((data.drop 4).take 4) = (check + 1) % 4294967296) ↔
      data = u32le 4 ++ u32le ((check + 1) % 4294967296) := by
    rw [eq_u32le_append_iff (by decide) (Nat.mod_lt _ (by decide))]
    exact and_congr_right fun hl => by rw [List.take_of_length_le (l := data.drop 4) (by rw [List.length_drop]; omega)]
  rw [checkResponse, if_pos rfl]
  simp only [ne_eq, ite_not, ite_ite_and, h]

theorem checkResponse_nocred (check : Nat) (data : Bytes) : checkResponse false check data = .ok () ↔ data = [] := by
  simp only [checkResponse]
  by_cases h : data = [] <;> simp [h]

end Nx.Backend
