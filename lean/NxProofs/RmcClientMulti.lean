import NxModel.Nex.RmcClientMulti
import NxProofs.RmcClientX
/-! Several connections in one process. `mrun_conn`: in any interleaving of the atomic sections of any number of connections,
the state and the outputs of connection `c` are those of the extended single-connection machine run on `c`'s own sections;
what the other connections do, and when, is irrelevant (`mstep_other`). -/
namespace Nx.RmcClient
open Nx.Rmc

theorem lift_length {σ α β : Type} (f : σ → α → σ × β) (ss : List σ) (c : Nat) (a : α) :
    (lift f ss c a).1.length = ss.length := by
  unfold lift; split <;> simp

theorem lift_other {σ α β : Type} (f : σ → α → σ × β) (ss : List σ) (c : Nat) (a : α) (c' : Nat) (h : c ≠ c') :
    (lift f ss c a).1[c']? = ss[c']? := by
  unfold lift; split
  · rfl
  · simp [List.getElem?_set_ne h]

theorem lift_self {σ α β : Type} (f : σ → α → σ × β) (ss : List σ) (c : Nat) (a : α) (s : σ) (h : ss[c]? = some s) :
    (lift f ss c a).1[c]? = some (f s a).1 ∧ (lift f ss c a).2 = some (f s a).2 := by
  have hlt : c < ss.length := (List.getElem?_eq_some_iff.mp h).1
  unfold lift
  rw [h]
  simp [List.getElem?_set_self hlt]

theorem lift_none {σ α β : Type} (f : σ → α → σ × β) (ss : List σ) (c : Nat) (a : α) (h : ss[c]? = none) :
    lift f ss c a = (ss, none) := by
  unfold lift; rw [h]

theorem outsOf_append (c : Nat) (a b : List (Nat × XOut)) : outsOf c (a ++ b) = outsOf c a ++ outsOf c b := by
  induction a with
  | nil => rfl
  | cons x r ih =>
    obtain ⟨c', x⟩ := x
    by_cases e : c' = c <;> simp [outsOf, e, ih]

theorem outsOf_tag_self (c : Nat) (l : List XOut) : outsOf c (l.map fun x => (c, x)) = l := by
  induction l with
  | nil => rfl
  | cons x r ih => simp [outsOf, ih]

theorem outsOf_tag_other (c c' : Nat) (h : c' ≠ c) (l : List XOut) : outsOf c (l.map fun x => (c', x)) = [] := by
  induction l with
  | nil => rfl
  | cons x r ih => simp [outsOf, h, ih]

theorem opsOf_append (c : Nat) (a b : List MOp) : opsOf c (a ++ b) = opsOf c a ++ opsOf c b := by
  induction a with
  | nil => rfl
  | cons o r ih => by_cases e : o.conn = c <;> simp [opsOf, e, ih]

theorem mstep_eq (ms : List XState) (o : MOp) :
    mstep ms o = ((lift xstep ms o.conn o.op).1, ((lift xstep ms o.conn o.op).2.getD []).map fun x => (o.conn, x)) := by
  unfold mstep; split <;> simp [*]

theorem mstep_length (ms : List XState) (o : MOp) : (mstep ms o).1.length = ms.length := by
  rw [mstep_eq]; exact lift_length xstep ms o.conn o.op

theorem mstep_other (ms : List XState) (o : MOp) (c : Nat) (h : o.conn ≠ c) :
    (mstep ms o).1[c]? = ms[c]? ∧ outsOf c (mstep ms o).2 = [] := by
  rw [mstep_eq]; exact ⟨lift_other xstep ms o.conn o.op c h, outsOf_tag_other c o.conn h _⟩

theorem mstep_self (ms : List XState) (o : MOp) (x : XState) (h : ms[o.conn]? = some x) :
    (mstep ms o).1[o.conn]? = some (xstep x o.op).1 ∧ outsOf o.conn (mstep ms o).2 = (xstep x o.op).2 := by
  obtain ⟨a, b⟩ := lift_self xstep ms o.conn o.op x h
  rw [mstep_eq, b]; exact ⟨a, outsOf_tag_self _ _⟩

theorem mrun_conn (ms : List XState) (ops : List MOp) (c : Nat) (x : XState) (h : ms[c]? = some x) :
    (mrun ms ops).1[c]? = some (xrun x (opsOf c ops)).1 ∧ outsOf c (mrun ms ops).2 = (xrun x (opsOf c ops)).2 := by
  induction ops generalizing ms x with
  | nil => exact ⟨h, rfl⟩
  | cons o r ih =>
    simp only [mrun, opsOf]
    by_cases e : o.conn = c
    · subst e
      obtain ⟨s1, s2⟩ := mstep_self ms o x h
      obtain ⟨i1, i2⟩ := ih (mstep ms o).1 (xstep x o.op).1 s1
      simp only [outsOf_append, s2, i2]
      exact ⟨i1, rfl⟩
    · obtain ⟨s1, s2⟩ := mstep_other ms o c e
      obtain ⟨i1, i2⟩ := ih (mstep ms o).1 x (s1.trans h)
      simp only [if_neg e, outsOf_append, s2, i2]
      exact ⟨i1, rfl⟩

theorem mrun_length (ms : List XState) (ops : List MOp) : (mrun ms ops).1.length = ms.length := by
  induction ops generalizing ms with
  | nil => rfl
  | cons o r ih => simp only [mrun]; rw [ih, mstep_length]

theorem minit_get (n : Nat) (ks : List Nat) (c : Nat) (hc : c < ks.length) :
    (minit n ks)[c]? = some (xinit n ks[c]) := by
  simp [minit, hc]

theorem mem_outsOf {c : Nat} {x : XOut} {l : List (Nat × XOut)} : x ∈ outsOf c l ↔ (c, x) ∈ l := by
  induction l with
  | nil => simp [outsOf]
  | cons y r ih =>
    obtain ⟨c', y⟩ := y
    by_cases e : c' = c
    · subst e; simp [outsOf, ih]
    · have e' : ¬ c = c' := fun h => e h.symm
      simp [outsOf, e, e', ih]

theorem mem_opsOf_recvResponse (c : Nat) (ops : List MOp) (m : Msg) (h : Op.recvResponse m ∈ coreOps (opsOf c ops)) :
    (⟨c, .core (.recvResponse m)⟩ : MOp) ∈ ops := by
  induction ops with
  | nil => cases h
  | cons o r ih =>
    obtain ⟨c', y⟩ := o
    by_cases e : c' = c
    · subst e
      rw [opsOf, if_pos rfl, ← List.singleton_append, coreOps_append] at h
      rcases List.mem_append.mp h with h | h
      · cases y <;> simp [coreOps] at h
        subst h; exact List.mem_cons_self
      · exact List.mem_cons_of_mem _ (ih h)
    · rw [opsOf, if_neg e] at h
      exact List.mem_cons_of_mem _ (ih h)

end Nx.RmcClient
