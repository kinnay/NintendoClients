import NxModel.Nex.ObjWalk
import NxProofs.NexStationURL
/-! Walks on one value object (`NxModel/Nex/ObjWalk.lean`). For a `StationURL` that is mutated and serialised repeatedly: every
observation is a function of the logical content reached so far (`run_obs`), and clean operations keep the URL inside the
domain of the text round trip (`WF_content`). -/
namespace Nx.Nex.ObjWalk
open Nx.Nex.StationURL

theorem wSeq_single (pidSize : Nat) (t : Ty) (v : Val) : wSeq pidSize [(t, v)] = wVal pidSize t v := by
  simp only [wSeq, bind, Except.bind, pure, Except.pure]
  cases wVal pidSize t v <;> simp

theorem run_length (u : URL) (ops : List UOp) : (run u ops).1.length = ops.length := by
  induction ops generalizing u with
  | nil => rfl
  | cons op r ih => simp only [run, List.length_cons, ih]

theorem run_obs (u : URL) (ops : List UOp) (i : Nat) (h : i < ops.length) :
    (run u ops).1[i]? = some (observe (content u (ops.take i)) ops[i]) := by
  induction ops generalizing u i with
  | nil => simp at h
  | cons op r ih =>
    cases i with
    | zero => simp [run, content]
    | succ j =>
      simp only [List.length_cons, Nat.add_lt_add_iff_right] at h
      exact ih _ j h

/-- the operations that keep a URL inside the domain of the round trip -/
def OpClean : UOp → Prop
  | .set k v => Clean k ∧ Clean v.render ∧ k ≠ "scheme".toList ∧ k ≠ "self".toList
  | .scheme s => s ≠ [] ∧ ':' ∉ s
  | _ => True

theorem WF_setitem (u : URL) (h : WF u) (k : Str) (v : PVal)
    (hk : Clean k) (hv : Clean v.render) (h1 : k ≠ "scheme".toList) (h2 : k ≠ "self".toList) : WF (setitem u k v) := by
  obtain ⟨hne, hsc, hcl, hnd, hok⟩ := h
  refine ⟨hne, hsc, ?_, ?_, ?_⟩
  · exact fun p hp => (mem_dictInsert k v u.params p hp).elim (hcl p) (fun e => e ▸ ⟨hk, hv⟩)
  · show ((dictInsert k v u.params).map (·.1)).Nodup
    rw [keys_dictInsert]
    split
    · exact hnd
    · rename_i hnm
      exact List.nodup_append.mpr
        ⟨hnd, by simp, fun a ha b hb e => hnm (List.mem_singleton.mp hb ▸ e ▸ ha)⟩
  · exact fun p hp => (mem_dictInsert k v u.params p hp).elim (hok p) (fun e => e ▸ ⟨h1, h2⟩)

theorem WF_delitem (u : URL) (h : WF u) (k : Str) : WF (delitem u k) := by
  obtain ⟨hne, hsc, hcl, hnd, hok⟩ := h
  refine ⟨hne, hsc, fun p hp => hcl p (List.mem_filter.mp hp).1, ?_, fun p hp => hok p (List.mem_filter.mp hp).1⟩
  exact (List.Sublist.map _ (List.filter_sublist (l := u.params))).nodup hnd

theorem WF_strVals (u : URL) (h : WF u) : WF (strVals u) := by
  obtain ⟨hne, hsc, hcl, hnd, hok⟩ := h
  refine ⟨hne, hsc, List.forall_mem_map.mpr hcl, ?_, List.forall_mem_map.mpr hok⟩
  show ((u.params.map _).map _).Nodup
  rwa [List.map_map]

theorem WF_content1 (u : URL) (h : WF u) (op : UOp) (hop : OpClean op) : WF (content1 u op) := by
  cases op with
  | set k v => exact WF_setitem u h k v hop.1 hop.2.1 hop.2.2.1 hop.2.2.2
  | del k => exact WF_delitem u h k
  | scheme s => exact ⟨hop.1, hop.2, h.params_clean, h.keys_nodup, h.keys_ok⟩
  | reparse => simp only [content1, parse_repr u h]; exact WF_strVals u h
  | _ => exact h

theorem WF_content (u : URL) (h : WF u) (ops : List UOp) (hops : ∀ op ∈ ops, OpClean op) : WF (content u ops) := by
  induction ops generalizing u with
  | nil => exact h
  | cons op r ih =>
    exact ih _ (WF_content1 u h op (hops op (by simp))) (fun o ho => hops o (by simp [ho]))

theorem copy_ok (u : URL) (h : WF u) : copy u = .ok u := by
  simp only [copy, reserved_any h.keys_ok, Bool.false_eq_true, if_false]

end Nx.Nex.ObjWalk
