import NxProofs.PrudpOptions
/-! v1 codec: the option dict of a packet by type; decode ∘ encode; whatever `v1DecodeOne` accepts is the encoding of what
it yields (`v1DecodeOne_sound`); `v1Loop` is `decLoop v1DecodeOne`, hence concatenation -/
namespace Nx.Prudp

theorem V1WF.type_lt {p : Packet} (h : V1WF p) : p.type < 16 := h.2.2.2.2.2.1
theorem V1WF.flags_lt {p : Packet} (h : V1WF p) : p.flags < 4096 := h.2.2.2.2.2.2.1
theorem V1WF.sig {p : Packet} (h : V1WF p) : optLen p.signature 16 := h.2.2.2.2.2.2.2.2.2.2.1
/-- the last three conjuncts: the fields that travel as options, by packet type -/
theorem V1WF.opts {p : Packet} (h : V1WF p) :
    (if isSynOrConnect p.type then
       p.minorVersion < 256 ∧ p.supportedFunctions < 16777216 ∧ optLen p.connectionSignature 16 ∧ p.maxSubstreamId < 256
     else p.minorVersion = 0 ∧ p.supportedFunctions = 0 ∧ p.connectionSignature = none ∧ p.maxSubstreamId = 0) ∧
    (if p.type = 1 then p.initialUnreliableId < 65536 else p.initialUnreliableId = 0) ∧
    (if p.type = 2 then p.fragmentId < 256 else p.fragmentId = 0) :=
  h.2.2.2.2.2.2.2.2.2.2.2.2

theorem v1Options_cases (p : Packet) :
    (p.type = 0 ∧ v1Options p = [(0, .int (pyOr p.minorVersion p.supportedFunctions 8)),
      (1, optBytesVal p.connectionSignature), (4, .int p.maxSubstreamId)]) ∨
    (p.type = 1 ∧ v1Options p = [(0, .int (pyOr p.minorVersion p.supportedFunctions 8)),
      (1, optBytesVal p.connectionSignature), (3, .int p.initialUnreliableId), (4, .int p.maxSubstreamId)]) ∨
    (p.type = 2 ∧ v1Options p = [(2, .int p.fragmentId)]) ∨
    (p.type ≠ 0 ∧ p.type ≠ 1 ∧ p.type ≠ 2 ∧ v1Options p = []) := by
  unfold v1Options
  rcases v1_type_cases p.type with ht | ht | ht | ⟨h0, h1, h2⟩
  · rw [ht]; exact Or.inl ⟨rfl, rfl⟩
  · rw [ht]; exact Or.inr (Or.inl ⟨rfl, rfl⟩)
  · rw [ht]; exact Or.inr (Or.inr (Or.inl ⟨rfl, rfl⟩))
  · refine Or.inr (Or.inr (Or.inr ⟨h0, h1, h2, ?_⟩))
    rw [if_neg (not_isSynOrConnect h0 h1), if_neg h2]

theorem v1Verify_enc (p : Packet) : v1VerifyOptions p.type (v1Options p) = true := by
  rcases v1Options_cases p with ⟨ht, hd⟩ | ⟨ht, hd⟩ | ⟨ht, hd⟩ | ⟨h0, h1, h2, hd⟩
  · rw [hd, ht]; rfl
  · rw [hd, ht]; rfl
  · rw [hd, ht]; rfl
  · rw [hd, v1VerifyOptions, if_neg h0, if_neg h1, if_neg h2]; rfl

theorem v1Options_spec (p : Packet) (h : V1WF p) :
    OptsWF (v1Options p) ∧ v1OptFields p.type (v1Options p) = .ok {
      minorVersion := p.minorVersion, supportedFunctions := p.supportedFunctions,
      connectionSignature := p.connectionSignature, maxSubstreamId := p.maxSubstreamId,
      initialUnreliableId := p.initialUnreliableId, fragmentId := p.fragmentId } := by
  obtain ⟨hsc, hc, hd⟩ := h.opts
  -- once the dict is explicit the lookups compute; what is left is that the fields a type does not carry are zero
  rcases v1Options_cases p with ⟨ht, ho⟩ | ⟨ht, ho⟩ | ⟨ht, ho⟩ | ⟨h0, h1, h2, ho⟩ <;> rw [ho]
  · rw [ht] at hsc
    rw [ht] at hc hd
    obtain ⟨hm, hs, hcs, hms⟩ := hsc
    obtain ⟨x, hx, -⟩ := optLen_some hcs
    obtain ⟨e1, e2⟩ := pyOr8_mod_div p.supportedFunctions hm
    refine ⟨⟨(by decide : [0, 1, 4].Nodup), ?_⟩, ?_⟩
    · simp only [List.forall_mem_cons, List.not_mem_nil, false_imp_iff, implies_true, and_true]
      exact ⟨support_lt hm hs, optBytesVal_wf hcs (Or.inl rfl), hms⟩
    · rw [ht, hx, hc, hd]
      show Except.ok _ = _
      rw [e1, e2]
  · rw [ht] at hsc
    rw [if_pos ht] at hc
    rw [ht] at hd
    obtain ⟨hm, hs, hcs, hms⟩ := hsc
    obtain ⟨x, hx, -⟩ := optLen_some hcs
    obtain ⟨e1, e2⟩ := pyOr8_mod_div p.supportedFunctions hm
    refine ⟨⟨(by decide : [0, 1, 3, 4].Nodup), ?_⟩, ?_⟩
    · simp only [List.forall_mem_cons, List.not_mem_nil, false_imp_iff, implies_true, and_true]
      exact ⟨support_lt hm hs, optBytesVal_wf hcs (Or.inl rfl), hc, hms⟩
    · rw [ht, hx, hd]
      show Except.ok _ = _
      rw [e1, e2]
  · rw [ht] at hsc hc
    rw [if_pos ht] at hd
    obtain ⟨hm, hs, hcs, hms⟩ := hsc
    refine ⟨⟨(by decide : [2].Nodup), ?_⟩, ?_⟩
    · simp only [List.forall_mem_cons, List.not_mem_nil, false_imp_iff, implies_true, and_true]
      exact hd
    · rw [ht, hm, hs, hcs, hms, hc]
      rfl
  · rw [if_neg (not_isSynOrConnect h0 h1)] at hsc
    rw [if_neg h1] at hc
    rw [if_neg h2] at hd
    obtain ⟨hm, hs, hcs, hms⟩ := hsc
    refine ⟨OptsWF_nil, ?_⟩
    rw [hm, hs, hcs, hms, hc, hd]
    simp only [v1OptFields, not_isSynOrConnect h0 h1, h1, h2, if_false]
    rfl

/-- at most four entries of at most 18 bytes: the option size always fits its byte (prudp.py relies on it silently) -/
theorem v1EncodeOptions_length (p : Packet) : (v1EncodeOptions p).length < 256 := by
  have := encodeOptions_length_le (v1Options p)
  have : (v1Options p).length ≤ 4 := by
    rcases v1Options_cases p with ⟨-, ho⟩ | ⟨-, ho⟩ | ⟨-, ho⟩ | ⟨-, -, -, ho⟩ <;> rw [ho] <;> simp
  unfold v1EncodeOptions; omega

/-- the option block of a well-formed packet has a length fixed by its type -/
def v1OptBlockLen (t : Nat) : Nat := if t = 0 then 27 else if t = 1 then 31 else if t = 2 then 3 else 0

theorem v1EncodeOptions_length_eq (p : Packet) (h : V1WF p) : (v1EncodeOptions p).length = v1OptBlockLen p.type := by
  have hsc := h.opts.1
  unfold v1EncodeOptions v1OptBlockLen
  rcases v1Options_cases p with ⟨ht, ho⟩ | ⟨ht, ho⟩ | ⟨ht, ho⟩ | ⟨h0, h1, h2, ho⟩ <;> rw [ho]
  · rw [ht] at hsc
    obtain ⟨x, hx, -⟩ := optLen_some hsc.2.2.1
    rw [ht, hx]
    simp [encodeOptions, encodeOption, optInfo, optBytesVal, pad16_length]
  · rw [ht] at hsc
    obtain ⟨x, hx, -⟩ := optLen_some hsc.2.2.1
    rw [ht, hx]
    simp [encodeOptions, encodeOption, optInfo, optBytesVal, pad16_length]
  · rw [ht]; rfl
  · rw [if_neg h0, if_neg h1, if_neg h2]; rfl

theorem v1RdHeader_enc (p : Packet) (os : Nat) (rest : Bytes) (h : V1WF p) (hos : os < 256) :
    v1RdHeader ([0xEA, 0xD0] ++ v1EncodeHeader p os ++ rest) =
      .ok ({ optionSize := os, payloadSize := p.payload.length, source := p.sourcePort + p.sourceType * 16,
             dest := p.destPort + p.destType * 16, typeFlags := p.type + p.flags * 16,
             session := p.sessionId, substream := p.substreamId, packetId := p.packetId }, rest) := by
  obtain ⟨-, hst, hsp, hdt, hdp, hty, hfl, hse, hsub, hpid, -, hpl, -⟩ := h
  have h1 : p.sourcePort + p.sourceType * 16 < 256 := by omega
  have h2 : p.destPort + p.destType * 16 < 256 := by omega
  have h3 : p.type + p.flags * 16 < 65536 := by omega
  unfold v1RdHeader v1EncodeHeader
  simp only [pyOr4 _ hsp, pyOr4 _ hdp, pyOr4 _ hty, List.append_assoc]
  rw [rd_append' (n := 2) [0xEA, 0xD0] _ rfl]
  simp only [ne_eq, not_true_eq_false, if_false]
  rw [if_neg (by simp; omega)]
  simp only [rdU8_u8 1 _ (by omega), rdU8_u8 _ _ hos, rdU16_u16le _ _ hpl, rdU8_u8 _ _ h1, rdU8_u8 _ _ h2,
    rdU16_u16le _ _ h3, rdU8_u8 _ _ hse, rdU8_u8 _ _ hsub, rdU16_u16le _ _ hpid, not_true_eq_false, if_false]

theorem v1DecodeOne_encode (p : Packet) (h : V1WF p) (rest : Bytes) :
    v1DecodeOne (v1Encode p ++ rest) = .ok (p, rest) := by
  obtain ⟨hwf, hof⟩ := v1Options_spec p h
  have hdo : decodeOptions (v1EncodeOptions p) = .ok (v1Options p) := options_roundtrip _ hwf
  have hhdr := fun x => v1RdHeader_enc p _ x h (v1EncodeOptions_length p)
  obtain ⟨hver, -, hsp, -, hdp, hty, -, -, -, -, hsig, -⟩ := h
  obtain ⟨sg, hsg, hsgl⟩ := optLen_some hsig
  unfold v1DecodeOne v1Encode
  simp only [List.append_assoc, hsg, Option.getD_some] at hhdr ⊢
  simp only [hhdr, rd_append' _ _ hsgl, rd_append, hdo, add_mul_div_mod _ hty, add_mul_div_mod _ hsp,
    add_mul_div_mod _ hdp, v1Verify_enc, hof, Bool.not_true, Bool.false_eq_true, if_false]
  rw [← hver, ← hsg]

theorem v1RdHeader_inv {b r : Bytes} {h : V1Hdr} (hh : v1RdHeader b = .ok (h, r)) :
    b = [0xEA, 0xD0] ++ (u8 1 ++ (u8 h.optionSize ++ (u16le h.payloadSize ++ (u8 h.source ++ (u8 h.dest ++
          (u16le h.typeFlags ++ (u8 h.session ++ (u8 h.substream ++ (u16le h.packetId ++ r))))))))) := by
  unfold v1RdHeader at hh
  rcases h0 : rd 2 b with e | ⟨magic, r0⟩ <;> simp only [h0, reduceCtorEq] at hh
  obtain ⟨hm, hh⟩ := of_ite_error hh
  obtain ⟨-, hh⟩ := of_ite_error hh
  rcases h1 : rdU8 r0 with e | ⟨v, r1⟩ <;> simp only [h1, reduceCtorEq] at hh
  obtain ⟨hv, hh⟩ := of_ite_error hh
  rcases h2 : rdU8 r1 with e | ⟨os, r2⟩ <;> simp only [h2, reduceCtorEq] at hh
  rcases h3 : rdU16 r2 with e | ⟨ps, r3⟩ <;> simp only [h3, reduceCtorEq] at hh
  rcases h4 : rdU8 r3 with e | ⟨so, r4⟩ <;> simp only [h4, reduceCtorEq] at hh
  rcases h5 : rdU8 r4 with e | ⟨de, r5⟩ <;> simp only [h5, reduceCtorEq] at hh
  rcases h6 : rdU16 r5 with e | ⟨tf, r6⟩ <;> simp only [h6, reduceCtorEq] at hh
  rcases h7 : rdU8 r6 with e | ⟨se, r7⟩ <;> simp only [h7, reduceCtorEq] at hh
  rcases h8 : rdU8 r7 with e | ⟨su, r8⟩ <;> simp only [h8, reduceCtorEq] at hh
  rcases h9 : rdU16 r8 with e | ⟨pid, r9⟩ <;> simp only [h9, reduceCtorEq] at hh
  cases hh
  obtain ⟨rfl, -⟩ := rd_inv h0
  obtain ⟨rfl, -⟩ := rdU8_inv h1
  obtain ⟨rfl, -⟩ := rdU8_inv h2
  obtain ⟨rfl, -⟩ := rdU16_inv h3
  obtain ⟨rfl, -⟩ := rdU8_inv h4
  obtain ⟨rfl, -⟩ := rdU8_inv h5
  obtain ⟨rfl, -⟩ := rdU16_inv h6
  obtain ⟨rfl, -⟩ := rdU8_inv h7
  obtain ⟨rfl, -⟩ := rdU8_inv h8
  obtain ⟨rfl, -⟩ := rdU16_inv h9
  rw [Decidable.not_not.mp hm, Decidable.not_not.mp hv]

/-- the v1 encoding of `p` with its option dict `o` emitted in the order given -/
def v1EncodeWith (p : Packet) (o : Opts) : Bytes :=
  [0xEA, 0xD0] ++ v1EncodeHeader p (encodeOptions o).length ++ p.signature.getD [] ++ encodeOptions o ++ p.payload

theorem pyOr4_divmod (x : Nat) : pyOr (x % 16) (x / 16) 4 = x := by
  rw [pyOr4 _ (Nat.mod_lt _ (by omega))]; omega

theorem v1DecodeOne_sound {b rest : Bytes} {p : Packet} (h : v1DecodeOne b = .ok (p, rest)) :
    ∃ o : Opts, v1VerifyOptions p.type o = true ∧ OptsWF o ∧ b = v1EncodeWith p o ++ rest ∧ optLen p.signature 16 := by
  unfold v1DecodeOne at h
  rcases h0 : v1RdHeader b with e | ⟨hd, r0⟩ <;> simp only [h0, reduceCtorEq] at h
  rcases h1 : rd 16 r0 with e | ⟨sig, r1⟩ <;> simp only [h1, reduceCtorEq] at h
  rcases h2 : rd hd.optionSize r1 with e | ⟨od, r2⟩ <;> simp only [h2, reduceCtorEq] at h
  rcases h3 : decodeOptions od with e | opts <;> simp only [h3, reduceCtorEq] at h
  obtain ⟨hv, h⟩ := of_ite_error h
  rcases h4 : v1OptFields (hd.typeFlags % 16) opts with e | f <;> simp only [h4, reduceCtorEq] at h
  rcases h5 : rd hd.payloadSize r2 with e | ⟨pl, r3⟩ <;> simp only [h5, reduceCtorEq] at h
  cases h
  obtain rfl := v1RdHeader_inv h0
  obtain ⟨rfl, hsl⟩ := rd_inv h1
  obtain ⟨rfl, hol⟩ := rd_inv h2
  obtain ⟨rfl, hpl⟩ := rd_inv h5
  obtain ⟨he, hw⟩ := decodeOptions_sound _ _ h3
  refine ⟨opts, by simpa using hv, hw, ?_, congrArg some hsl⟩
  simp only [v1EncodeWith, v1EncodeHeader, pyOr4_divmod, he, hol, hpl, Option.getD_some, List.append_assoc]

/- `v1Loop` is `decLoop v1DecodeOne` word for word, but each definition has matcher constants of its own and `rfl` does
   not see through them while the scrutinee is a variable: every `match` is opened with `rcases` first. -/
theorem v1Loop_eq : v1Loop = decLoop v1DecodeOne := by
  funext fuel
  induction fuel with
  | zero => rfl
  | succ f ih =>
    funext d
    rw [v1Loop, decLoop, ih]
    split; · rfl
    rcases v1DecodeOne d with e | ⟨p, r⟩; · rfl
    simp only []
    cases decLoop v1DecodeOne f r <;> rfl

theorem v1Decode_concat (ps : List Packet) (hwf : ∀ p ∈ ps, V1WF p) : v1Decode (ps.flatMap v1Encode) = .ok ps := by
  rw [v1Decode, v1Loop_eq]
  exact decLoop_flatMap (fun ps => ∀ p ∈ ps, V1WF p)
    (fun p l h => ⟨fun q hq => h q (List.mem_cons_of_mem _ hq), by simp [v1Encode],
      v1DecodeOne_encode p (h p List.mem_cons_self) _⟩)
    ps _ hwf (Nat.lt_succ_self _)

theorem v1Decode_encode (p : Packet) (h : V1WF p) : v1Decode (v1Encode p) = .ok [p] := by
  have := v1Decode_concat [p] (by simpa using h)
  simpa using this

theorem V1WF_setSig (p : Packet) (s : Option Bytes) (h : V1WF p) (hs : optLen s 16) :
    V1WF { p with signature := s } := by
  obtain ⟨h1, h2, h3, h4, h5, h6, h7, h8, h9, h10, -, h12, h13, h14, h15⟩ := h
  exact ⟨h1, h2, h3, h4, h5, h6, h7, h8, h9, h10, hs, h12, h13, h14, h15⟩

end Nx.Prudp
