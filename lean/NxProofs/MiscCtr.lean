import NxModel.Crypto.Aes
import Mathlib.Tactic.Ring  -- see MiscBits.lean: it decides what `^` on ℕ elaborates to here and in NxProps/C19 (the two trailing `rfl`s below exist because of it)
import NxModel.Crypto.Rsa
import NxProofs.Bytes
/-! Big-endian numerals (`natToBytesBE` / `bytesToNatBE`) are the little-endian ones of `Bytes.lean` reversed, and split at any
digit. The counter arithmetic of the AES-CTR reference (`aesCtr`, used by `prodTlsD` = `ProdInfo.get_tls_key`): the WHOLE
16-byte block is one big-endian numeral; a carry out of any byte — in particular out of the low 64 bits — reaches the bytes
above it (`two_digits`: two-digit arithmetic in a variable base, 2^64 put in last). -/
namespace Nx.Crypto

theorem natToBytesBE_length (m n : Nat) : (natToBytesBE m n).length = m := by simp [natToBytesBE]

theorem natToBytesBE_add (m k n : Nat) :
    natToBytesBE (m + k) n = natToBytesBE m (n / 256 ^ k) ++ natToBytesBE k n := by
  simp only [natToBytesBE, List.range_add, List.map_append, List.map_map]
  congr 1
  · refine List.map_congr_left fun i hi => ?_
    rw [List.mem_range] at hi
    rw [Nat.div_div_eq_div_mul, ← Nat.pow_add, show k + (m - 1 - i) = m + k - 1 - i by omega]
  · refine List.map_congr_left fun i _ => ?_
    simp only [Function.comp, show m + k - 1 - (m + i) = k - 1 - i by omega]

theorem natToBytesBE_eq (m n : Nat) : natToBytesBE m n = (leBytes m n).reverse := by
  induction m generalizing n with
  | zero => rfl
  | succ m ih =>
    -- `m + 1` digits: `m` digits, then the last one
    rw [natToBytesBE_add m 1, ih, leBytes, List.reverse_cons]
    simpa [natToBytesBE, b8] using UInt8.ofNat_mod_size

theorem bytesToNatBE_eq (b : Bytes) : bytesToNatBE b = leNat b.reverse := foldl_eq_leNat_reverse b

theorem bytesToNatBE_natToBytesBE (m n : Nat) : bytesToNatBE (natToBytesBE m n) = n % 256 ^ m := by
  rw [bytesToNatBE_eq, natToBytesBE_eq, List.reverse_reverse, leNat_leBytes]

/-- the model writes the exponent `16 - 1 - i` as `15 - i` -/
theorem ctrBlock_eq (n : Nat) : ctrBlock n = natToBytesBE 16 n := rfl

theorem ctrBlock_length (n : Nat) : (ctrBlock n).length = 16 := natToBytesBE_length 16 n

theorem ctrBlock_high_half (n : Nat) : bytesToNatBE ((ctrBlock n).take 8) = n / 2 ^ 64 % 2 ^ 64 := by
  rw [ctrBlock_eq, natToBytesBE_add 8 8, List.take_left' (natToBytesBE_length ..), bytesToNatBE_natToBytesBE]
  rfl  -- `256 ^ 8` is `2 ^ 64`

theorem ctrBlock_low_half (n : Nat) : bytesToNatBE ((ctrBlock n).drop 8) = n % 2 ^ 64 := by
  rw [ctrBlock_eq, natToBytesBE_add 8 8, List.drop_left' (natToBytesBE_length ..), bytesToNatBE_natToBytesBE]
  rfl

theorem two_digits (B hi lo : Nat) (h : lo < B) :
    (hi * B + lo) % (B * B) / B % B = hi % B ∧ (hi * B + lo) % (B * B) % B = lo := by
  rw [Nat.mod_mul_right_div_self, Nat.mod_mod, Nat.mod_mul_right_mod, Nat.mul_comm, Nat.mul_add_div (by omega),
    Nat.mul_add_mod, Nat.div_eq_of_lt h, Nat.mod_eq_of_lt h]
  exact ⟨rfl, rfl⟩

end Nx.Crypto
