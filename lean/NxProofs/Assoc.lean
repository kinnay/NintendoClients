import NxProofs.Bytes
/-! A Python `dict` as an association list. The models write out the same lookup, insert-or-replace and erase once per key and
value type (`Chan.lookup`, `L1.clientLookup`, `RmcClient.dlookup`, `Nex.dictGet`, …). Here the functions stand once, with the
lemmas through which proofs use them; each copy in a model is connected to them by one equation (`L1.clientLookup_eq`, …).
For a copy that compares keys with `=` the equation comes from `eq_alookup` or one of its like: a function with the same two
defining equations is the same function. -/
namespace Nx
variable {κ ν : Type} [BEq κ]

def alookup (k : κ) : List (κ × ν) → Option ν
  | [] => none
  | (k', v) :: r => if k' == k then some v else alookup k r

/-- `d[k] = v`: an existing key keeps its position -/
def aset (k : κ) (v : ν) : List (κ × ν) → List (κ × ν)
  | [] => [(k, v)]
  | (k', v') :: r => if k' == k then (k, v) :: r else (k', v') :: aset k v r

def aerase (k : κ) (l : List (κ × ν)) : List (κ × ν) := l.filter (·.1 != k)

theorem alookup_eq_find (k : κ) (l : List (κ × ν)) : alookup k l = (l.find? (·.1 == k)).map (·.2) := by
  induction l with
  | nil => rfl
  | cons x r ih => by_cases h : x.1 == k <;> simp [alookup, h, ih]

theorem mem_aset {k : κ} {v : ν} {l : List (κ × ν)} {e : κ × ν} (h : e ∈ aset k v l) : e = (k, v) ∨ e ∈ l := by
  induction l with
  | nil => exact Or.inl (List.mem_singleton.mp h)
  | cons x r ih =>
    rw [aset] at h
    split at h
    · exact (List.mem_cons.mp h).imp_right (List.mem_cons_of_mem _)
    · rcases List.mem_cons.mp h with h | h
      · exact Or.inr (h ▸ List.mem_cons_self)
      · exact (ih h).imp_right (List.mem_cons_of_mem _)

variable [LawfulBEq κ] {k k' : κ} {v : ν} {l : List (κ × ν)}

theorem mem_of_alookup (h : alookup k l = some v) : (k, v) ∈ l := by
  rw [alookup_eq_find] at h
  obtain ⟨x, hx, rfl⟩ := Option.map_eq_some_iff.mp h
  have hk : x.1 = k := eq_of_beq (List.find?_some (p := fun x : κ × ν => x.1 == k) hx)
  exact hk ▸ List.mem_of_find?_eq_some hx

theorem alookup_eq_none_iff : alookup k l = none ↔ ∀ e ∈ l, e.1 ≠ k := by
  rw [alookup_eq_find, Option.map_eq_none_iff, List.find?_eq_none]
  exact forall₂_congr fun _ _ => not_congr beq_iff_eq

theorem alookup_of_mem (hn : (l.map (·.1)).Nodup) (h : (k, v) ∈ l) : alookup k l = some v := by
  rw [alookup_eq_find, find?_beq_of_nodup_map (·.1) hn h]; rfl

theorem alookup_aset_self (k : κ) (v : ν) (l : List (κ × ν)) : alookup k (aset k v l) = some v := by
  induction l with
  | nil => simp [aset, alookup]
  | cons x r ih => by_cases h : x.1 = k <;> simp [aset, alookup, h, ih]

theorem alookup_aset_ne (h : k' ≠ k) (v : ν) (l : List (κ × ν)) : alookup k' (aset k v l) = alookup k' l := by
  induction l with
  | nil => simp [aset, alookup, Ne.symm h]
  | cons x r ih =>
    obtain ⟨k2, v2⟩ := x
    by_cases h1 : k2 = k
    · subst h1; simp [aset, alookup, Ne.symm h]
    · by_cases h2 : k2 = k'
      · subst h2; simp [aset, alookup, h1]
      · simp [aset, alookup, h1, h2, ih]

theorem mem_aerase {x : κ × ν} : x ∈ aerase k l ↔ x ∈ l ∧ x.1 ≠ k := by
  rw [aerase, List.mem_filter, bne_iff_ne]

theorem alookup_aerase_self (k : κ) (l : List (κ × ν)) : alookup k (aerase k l) = none :=
  alookup_eq_none_iff.mpr fun _ h => (mem_aerase.mp h).2

theorem alookup_aerase_ne (h : k' ≠ k) (l : List (κ × ν)) : alookup k' (aerase k l) = alookup k' l := by
  rw [alookup_eq_find, alookup_eq_find, aerase, List.find?_filter]
  congr 2; funext x
  by_cases hx : x.1 = k' <;> simp [hx, h]

section eq
variable [DecidableEq κ]

theorem eq_alookup {f : κ → List (κ × ν) → Option ν} (nil : ∀ {k}, f k [] = none)
    (cons : ∀ {k k' v r}, f k ((k', v) :: r) = if k' = k then some v else f k r) : f = alookup := by
  funext k l
  induction l with
  | nil => exact nil
  | cons x r ih => simp [cons, alookup, ih]

theorem eq_aset {f : κ → ν → List (κ × ν) → List (κ × ν)} (nil : ∀ {k v}, f k v [] = [(k, v)])
    (cons : ∀ {k v k' v' r}, f k v ((k', v') :: r) = if k' = k then (k, v) :: r else (k', v') :: f k v r) : f = aset := by
  funext k v l
  induction l with
  | nil => exact nil
  | cons x r ih => simp [cons, aset, ih]

theorem eq_aerase {f : κ → List (κ × ν) → List (κ × ν)} (nil : ∀ {k}, f k [] = [])
    (cons : ∀ {k k' v r}, f k ((k', v) :: r) = if k' = k then f k r else (k', v) :: f k r) : f = aerase := by
  funext k l
  induction l with
  | nil => exact nil
  | cons x r ih => by_cases h : x.1 = k <;> simpa [cons, aerase, h] using ih

end eq
end Nx
