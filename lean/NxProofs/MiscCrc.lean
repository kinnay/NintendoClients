import NxModel.Crypto.Crc16
import NxProofs.Bytes
import NxProofs.Bits
/-!
# The Mii checksum is a linear map — hence "append the CRC of the zero-augmented data" validates

Python: `build` emits `data ++ be16 (crc16 (data ++ b"\0\0"))`, `parse` demands `crc16 (all 0x60 bytes) == 0`.
The checksum equation is `miiCrc16_trailer`: `crc16 (data ++ be16 x) = crc16 (data ++ [0,0]) xor x` for every 16-bit `x`.
-/
namespace Nx.Crypto

theorem miiShift1_eq (h : Nat) :
    miiShift1 h = ((h <<< 1) &&& 0xFFFF) ^^^ (if h.testBit 15 then 0x1021 else 0) := by
  unfold miiShift1
  rw [show (0x8000 : Nat) = 2 ^ 15 from rfl, and_two_pow_eq]
  cases h.testBit 15 <;> simp

/-- one step of a shift register with feedback: a xor-linear map, xored with a constant chosen by one bit of the
    argument, is xor-linear -/
theorem xor_feedback (L : Nat → Nat) (hL : ∀ a b, L (a ^^^ b) = L a ^^^ L b) (k p a b : Nat) :
    L (a ^^^ b) ^^^ (if (a ^^^ b).testBit k then p else 0) =
      (L a ^^^ if a.testBit k then p else 0) ^^^ (L b ^^^ if b.testBit k then p else 0) := by
  have hp : (L a ^^^ p) ^^^ (L b ^^^ p) = L a ^^^ L b := by
    rw [show (L a ^^^ p) ^^^ (L b ^^^ p) = (L a ^^^ L b) ^^^ (p ^^^ p) by ac_rfl, Nat.xor_self, Nat.xor_zero]
  rw [hL, Nat.testBit_xor]
  -- both bits set: the two `p` cancel; one bit set: the sides differ by the order of the xors
  cases a.testBit k <;> cases b.testBit k <;> simp [hp] <;> ac_rfl

theorem miiShift1_xor (a b : Nat) : miiShift1 (a ^^^ b) = miiShift1 a ^^^ miiShift1 b := by
  simp only [miiShift1_eq]
  exact xor_feedback (fun h => (h <<< 1) &&& 0xFFFF)
    (fun a b => by rw [Nat.shiftLeft_xor_distrib, Nat.and_xor_distrib_right]) ..

theorem miiShiftN_xor (n a b : Nat) : miiShiftN n (a ^^^ b) = miiShiftN n a ^^^ miiShiftN n b := by
  induction n generalizing a b with
  | zero => rfl
  | succ n ih => simp only [miiShiftN, miiShift1_xor, ih]

theorem miiShift8_xor (a b : Nat) : miiShift8 (a ^^^ b) = miiShift8 a ^^^ miiShift8 b :=
  miiShiftN_xor 8 a b

theorem miiShift1_lt (h : Nat) : miiShift1 h < 65536 := by
  rw [miiShift1_eq]
  apply Nat.xor_lt_two_pow (n := 16)
  · exact Nat.lt_of_le_of_lt Nat.and_le_right (by decide)
  · split <;> decide

theorem miiShiftN_succ_lt (n h : Nat) : miiShiftN (n + 1) h < 65536 := by
  induction n generalizing h with
  | zero => exact miiShift1_lt h
  | succ n ih => exact ih _

theorem miiShift8_lt (h : Nat) : miiShift8 h < 65536 := miiShiftN_succ_lt 7 h

theorem miiCrcFrom_lt (h : Nat) (d : Bytes) (hh : h < 65536) : miiCrcFrom h d < 65536 := by
  induction d generalizing h with
  | nil => exact hh
  | cons c r ih =>
    apply ih
    apply Nat.xor_lt_two_pow (n := 16) (miiShift8_lt h)
    exact Nat.lt_trans c.toNat_lt (by decide)

theorem miiCrc16_lt (d : Bytes) : miiCrc16 d < 65536 := miiCrcFrom_lt 0 d (by decide)

theorem miiCrcFrom_append (h : Nat) (a b : Bytes) : miiCrcFrom h (a ++ b) = miiCrcFrom (miiCrcFrom h a) b := by
  induction a generalizing h with
  | nil => rfl
  | cons c r ih => exact ih _

/-- below `2 ^ 15` nothing is shifted out and nothing fed back -/
theorem miiShift1_of_lt {h : Nat} (hh : h < 2 ^ 15) : miiShift1 h = h * 2 := by
  rw [miiShift1_eq, Nat.testBit_lt_two_pow hh, Nat.shiftLeft_eq, show 0xFFFF = 2 ^ 16 - 1 from rfl,
    Nat.and_two_pow_sub_one_eq_mod, Nat.mod_eq_of_lt (by omega)]
  exact Nat.xor_zero _

theorem miiShiftN_of_lt (n : Nat) {h : Nat} (hh : h * 2 ^ n < 2 ^ 16) : miiShiftN n h = h * 2 ^ n := by
  induction n generalizing h with
  | zero => exact (Nat.mul_one h).symm
  | succ n ih =>
    rw [Nat.pow_succ', ← Nat.mul_assoc] at hh ⊢
    have := Nat.le_mul_of_pos_right (h * 2) (Nat.two_pow_pos n)
    rw [miiShiftN, miiShift1_of_lt (by omega), ih hh]

/-- eight shifts of a byte value never overflow -/
theorem miiShift8_byte (x : Nat) (hx : x < 256) : miiShift8 x = x <<< 8 := by
  rw [miiShift8, miiShiftN_of_lt 8 (by omega), Nat.shiftLeft_eq]

theorem split16 (x : Nat) (hx : x < 65536) : ((x / 256 % 256) <<< 8) ^^^ (x % 256) = x := by
  rw [shiftLeft_xor_of_lt _ (k := 8) (Nat.mod_lt _ (by decide))]; omega

theorem miiCrcFrom_be16 (h x : Nat) (hx : x < 65536) :
    miiCrcFrom h [b8 (x / 256), b8 x] = miiShift8 (miiShift8 h) ^^^ x := by
  simp only [miiCrcFrom]
  rw [b8_toNat, b8_toNat, miiShift8_xor, miiShift8_byte _ (Nat.mod_lt _ (by decide)), Nat.xor_assoc, split16 x hx]

theorem miiCrcFrom_zero2 (h : Nat) : miiCrcFrom h [0, 0] = miiShift8 (miiShift8 h) := by
  simp [miiCrcFrom]

theorem miiCrc16_trailer (d : Bytes) (x : Nat) (hx : x < 65536) :
    miiCrc16 (d ++ u16be x) = miiCrc16 (d ++ [0, 0]) ^^^ x := by
  unfold miiCrc16 u16be
  rw [miiCrcFrom_append, miiCrcFrom_append, miiCrcFrom_be16 _ _ hx, miiCrcFrom_zero2]

theorem miiCrc16_valid (d : Bytes) : miiCrc16 (d ++ u16be (miiCrc16 (d ++ [0, 0]))) = 0 := by
  rw [miiCrc16_trailer _ _ (miiCrc16_lt _), Nat.xor_self]

theorem miiCrc16_trailer_zero_iff (d : Bytes) (x : Nat) (hx : x < 65536) :
    miiCrc16 (d ++ u16be x) = 0 ↔ x = miiCrc16 (d ++ [0, 0]) := by
  rw [miiCrc16_trailer d x hx]
  constructor
  · intro h
    have := congrArg (miiCrc16 (d ++ [0, 0]) ^^^ ·) h
    simp only [← Nat.xor_assoc, Nat.xor_self, Nat.zero_xor, Nat.xor_zero] at this
    exact this
  · intro h; rw [h, Nat.xor_self]

/-- the augmented form equals the textbook CRC-16/XMODEM register of the un-augmented data -/
theorem xmodem_fold (h : Nat) (d : Bytes) :
    miiShift8 (miiShift8 (miiCrcFrom h d)) = d.foldl xmodemByte (miiShift8 (miiShift8 h)) := by
  induction d generalizing h with
  | nil => rfl
  | cons c r ih =>
    simp only [miiCrcFrom, List.foldl_cons]
    rw [ih]
    unfold xmodemByte
    rw [miiShift8_xor, miiShift8_xor, miiShift8_byte _ c.toNat_lt, ← miiShift8_xor]

end Nx.Crypto
