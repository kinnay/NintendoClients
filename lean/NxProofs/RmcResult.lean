import NxModel.Nex.RmcResult
import NxProofs.RmcServer
/-! Wrongly typed handler results (`NxModel/Nex/RmcResult.lean`): containers fail with the first rejected element; the
property's relation `incompat` is sound for the encoder model `check` (`incompat_sound`); `pyCode` is the PythonCore code a
rejected result is answered with. -/
namespace Nx.RmcResult
open Nx.Rmc Nx.RmcServer

/-- the PythonCore code of an encoder exception -/
def pyCode (e : PyExc) : Nat := if e = .typeError then 0x80040002 else 0x80040001

theorem resultCode_cls (e : PyExc) :
    resultCode (.raised e.cls) = some (pyCode e : Int) ∧ 2147483648 ≤ pyCode e ∧ pyCode e < 4294967296 := by
  cases e <;> exact ⟨rfl, by decide⟩

theorem cls_ne_base (e : PyExc) : e.cls ≠ .base := by cases e <;> simp [PyExc.cls]

theorem firstSome_map_append {α β : Type} (f : β → Option α) (pre post : List β) (b : β) (x : α)
    (hpre : ∀ p ∈ pre, f p = none) (hb : f b = some x) : firstSome ((pre ++ b :: post).map f) = some x := by
  induction pre with
  | nil => simp [firstSome, hb]
  | cons p r ih =>
    simp only [List.cons_append, List.map_cons, hpre p List.mem_cons_self, firstSome]
    exact ih fun q hq => hpre q (List.mem_cons_of_mem _ hq)

theorem firstSome_map_none {α β : Type} (f : β → Option α) (l : List β) (h : ∀ p ∈ l, f p = none) :
    firstSome (l.map f) = none := by
  induction l with
  | nil => rfl
  | cons p r ih =>
    simp only [List.map_cons, h p List.mem_cons_self, firstSome]
    exact ih fun q hq => h q (List.mem_cons_of_mem _ hq)

theorem list_first_failure (e : Slot) (k : SeqKind) (pre post : List Atom) (a : Atom) (x : PyExc)
    (hpre : ∀ b ∈ pre, check e (.atom b) = none) (ha : check e (.atom a) = some x) :
    check (.list e) (.seq k (pre ++ a :: post)) = some x :=
  firstSome_map_append _ pre post a x hpre ha

theorem list_all_accepted (e : Slot) (k : SeqKind) (l : List Atom) (h : ∀ b ∈ l, check e (.atom b) = none) :
    check (.list e) (.seq k l) = none :=
  firstSome_map_none _ l h

theorem map_first_failure (ks vs : Slot) (pre post : List (Atom × Atom)) (kv : Atom × Atom) (x : PyExc)
    (hpre : ∀ p ∈ pre, check ks (.atom p.1) = none ∧ check vs (.atom p.2) = none)
    (hkv : check ks (.atom kv.1) = some x ∨ (check ks (.atom kv.1) = none ∧ check vs (.atom kv.2) = some x)) :
    check (.map ks vs) (.dict (pre ++ kv :: post)) = some x := by
  refine firstSome_map_append _ pre post kv x (fun p hp => ?_) ?_
  · simp [hpre p hp]
  · rcases hkv with h | ⟨h1, h2⟩
    · simp [h]
    · simp [h1, h2]

theorem asInt_isIntLike (v : Val) : isIntLike v = (asInt v).isSome := by
  cases v with
  | atom a => cases a <;> rfl
  | seq k l => rfl
  | dict l => rfl

/-- the integer slots: `bytes([v])` and `struct.pack` differ only in the two exceptions they raise -/
private theorem incompat_int (s : Slot) (lo hi : Int) (e1 e2 : PyExc) (v : Val) (c : Exc) (hr : intRange s = some (lo, hi))
    (h1 : e1.cls = .other) (h2 : e2.cls = if s = .u8 then .typeError else .other)
    (hchk : check s v = match asInt v with
      | some i => if lo ≤ i ∧ i ≤ hi then none else some e1
      | none => some e2)
    (h : incompat s v = some c) : ∃ e, check s v = some e ∧ e.cls = c := by
  unfold incompat at h
  rw [hr] at h
  rw [hchk]
  cases hv : asInt v with
  | none => rw [hv] at h; exact ⟨e2, rfl, h2.trans (Option.some.inj h)⟩
  | some i =>
    rw [hv] at h
    dsimp only at h
    by_cases hin : lo ≤ i ∧ i ≤ hi
    · rw [if_pos hin] at h; cases h
    · rw [if_neg hin] at h; exact ⟨e1, if_neg hin, h1.trans (Option.some.inj h)⟩

/-- Outside the integer slots both `incompat` and `check` are tables over the kind of the value: on every kind the
    specification calls incompatible, both evaluate, and to the same class. -/
theorem incompat_sound (s : Slot) (v : Val) (c : Exc) (h : incompat s v = some c) :
    ∃ e, check s v = some e ∧ e.cls = c := by
  revert h
  cases s with
  | u8 => exact incompat_int _ _ _ .valueError .typeError v c rfl rfl rfl rfl
  | u16 | u32 | u64 | s8 | s16 | s32 | s64 => exact incompat_int _ _ _ .structError .structError v c rfl rfl rfl rfl
  | pid size8 => cases size8 <;> exact incompat_int _ _ _ .structError .structError v c rfl rfl rfl rfl
  | bool | stationurl => exact fun h => nomatch h
  | float | double | string | buffer | variant | anydata | struct =>
    cases v with
    | atom a => cases a <;> (intro h; cases h) <;> exact ⟨_, rfl, rfl⟩
    | seq k l => intro h; cases h <;> exact ⟨_, rfl, rfl⟩
    | dict l => intro h; cases h <;> exact ⟨_, rfl, rfl⟩
  | qbuffer =>
    cases v with
    | atom a =>
      cases a with
      | str cps =>
        -- specification and encoder are each an `if` on the length: `if_pos`/`if_neg` read both off (`true = true` is `bufferCheck`'s
        -- flag for a string, which `incompat` passes as a literal)
        intro h
        by_cases hl : true = true ∧ cps.length > 65535
        · exact ⟨.structError, if_pos hl, Option.some.inj ((if_pos ⟨rfl, hl.2⟩).symm.trans h)⟩
        · exact ⟨.typeError, if_neg hl, Option.some.inj ((if_neg fun hq => hl ⟨rfl, hq.2⟩).symm.trans h)⟩
      | _ => intro h; cases h <;> exact ⟨_, rfl, rfl⟩
    | seq k l => exact fun h => nomatch h
    | dict l => exact fun h => nomatch h
  | result | datetime =>
    intro h
    change (if _ then none else some Exc.other) = some c at h
    split at h
    · cases h
    · exact ⟨.attributeError, if_neg ‹_›, Option.some.inj h⟩
  | list e =>
    intro h
    have hi : incompat (.list e) v = if (iterOf v).isSome then none else some .typeError := rfl
    cases hv : iterOf v with
    | some l => rw [hi, hv] at h; cases h
    | none =>
      rw [hi, hv] at h
      exact ⟨.typeError, by simp only [check, hv], Option.some.inj h⟩
  | map ks vs =>
    cases v with
    | dict l => exact fun h => nomatch h
    | atom a => cases a <;> (intro h; cases h) <;> exact ⟨_, rfl, rfl⟩
    | seq k l => intro h; cases h; exact ⟨_, rfl, rfl⟩

section wire
variable {servers : Registry} {req : Msg} {m : Nat}

/-- a supported method with response variables whose well-typed result the encoder accepts is answered with the
    encoder's output -/
theorem accepted_result_response (w : ReqWF req m) (hp : regLookup req.protocol servers = some false)
    (srv : Server) (mid : Nat) (mt : Method) (hf : findMethod mid srv.methods = some mt)
    (hs : mt.supported = true) (hr : mt.resp ≠ .none) (hm : m < 32768)
    (wh : Where) (s : Slot) (v : Val) (obs : Bytes) (hb : obs.length + 12 < 4294967296)
    (he : resultCheck wh s v = none) :
    react servers req (generatedHandle srv mid none (.returns .good (encOf (resultCheck wh s v) obs)))
      = .sends (specEncode (.success req.protocol req.callId m obs)) := by
  rw [gen_returns_good srv mid _ mt hf hs, if_neg hr, he]
  exact react_returned w hp obs hm hb

end wire

theorem resultCheck_inner_incompat (req : Bool) (s : Slot) (v : Val) (c : Exc) (h : incompat s v = some c) :
    ∃ e, resultCheck (.inner req) s v = some e ∧ (e.cls = c ∨ (req = true ∧ v = .atom .none ∧ e = .valueError)) := by
  simp only [resultCheck]
  by_cases hq : req = true ∧ v = .atom .none
  · exact ⟨.valueError, by simp [hq], .inr ⟨hq.1, hq.2, rfl⟩⟩
  · obtain ⟨e, he, hc⟩ := incompat_sound s v c h
    exact ⟨e, by simp [hq, he], .inl hc⟩

end Nx.RmcResult
