import NxModel.Misc.Auth
/-! what an accepted Hpp response looks like, read off `hppValidate` one field at a time -/
namespace Nx.Misc

theorem hppValidate_eq_body_iff (callId method : Nat) (resp body : Bytes) :
    hppValidate callId method resp = .body body ↔
    ∃ size s1 flag s2 s3 s4, rdU32 resp = .ok (size, s1) ∧ size = s1.length ∧ rdU8 s1 = .ok (flag, s2) ∧ flag ≠ 0 ∧
      rdU32 s2 = .ok (callId, s3) ∧ rdU32 s3 = .ok (method ||| 0x8000, s4) ∧ body = s4 := by
  refine ⟨fun h => ?_, fun ⟨size, s1, flag, s2, s3, s4, h1, hsz, hf, hflag, hc, hm, hb⟩ => by
    simp [hppValidate, h1, hsz, hf, hflag, hc, hm, hb]⟩
  -- one scrutinee at a time: `split at h` on the whole nested term is many times slower to check
  unfold hppValidate at h
  rcases h1 : rdU32 resp with e | ⟨size, s1⟩
  · rw [h1] at h; cases h
  rw [h1] at h; simp only [] at h
  by_cases hsz : size ≠ s1.length
  · rw [if_pos hsz] at h; cases h
  rw [if_neg hsz] at h
  rcases hf : rdU8 s1 with e | ⟨flag, s2⟩
  · rw [hf] at h; cases h
  rw [hf] at h; simp only [] at h
  by_cases hflag : flag = 0
  · -- the failure branch ends in `.err` or `.rmcError`
    rw [if_pos hflag] at h
    split at h
    · cases h
    · split at h
      · cases h
      · split at h
        · cases h
        · split at h <;> cases h
  rw [if_neg hflag] at h
  rcases hc : rdU32 s2 with e | ⟨cid, s3⟩
  · rw [hc] at h; cases h
  rw [hc] at h; simp only [] at h
  by_cases hcid : callId ≠ cid
  · rw [if_pos hcid] at h; cases h
  rw [if_neg hcid] at h
  rcases hm : rdU32 s3 with e | ⟨mid, s4⟩
  · rw [hm] at h; cases h
  rw [hm] at h; simp only [] at h
  by_cases hmid : mid ≠ (method ||| 0x8000)
  · rw [if_pos hmid] at h; cases h
  rw [if_neg hmid] at h
  rw [Decidable.not_not] at hsz hcid hmid
  subst hcid hmid
  exact ⟨size, s1, flag, s2, s3, s4, rfl, hsz, hf, hflag, hc, hm, (HppOut.body.inj h).symm⟩

end Nx.Misc
