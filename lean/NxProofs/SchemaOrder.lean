import NxProofs.Schema
/-!
# C13 — blocks with a repeated gate stay where the definition puts them

`MatchmakeSession` is declared `… nex 30500 { progress_score } nex 30000 { session_key } nex 30500 { option } …`: the same
gate twice with another block in between. The layout the definition states is the declaration order, each block under
its own gate; a reader that merges the later block into the earlier one (`nex 30500 { progress_score option }
nex 30000 { session_key }`) describes a different layout as soon as both gates are open. `ExOrder` holds that shape
(as written / merged) for the examples of `NxProps/C13.lean`.
-/
namespace Nx.Schema

namespace ExOrder

/-- `struct S { nex 30500 { uint8 score = 100; } nex 30000 { buffer key = ""; } nex 30500 { uint32 option = 0; } }` -/
def asWritten : StructDef :=
  { name := 85, parent := none,
    items := .nex 30500 (.field 1 (.uint .b1) true .nil)
            (.nex 30000 (.field 2 .buffer true .nil)
            (.nex 30500 (.field 3 (.uint .b4) true .nil) .nil)) }

/-- the same attributes after merging the second `nex 30500` block into the first -/
def merged : StructDef :=
  { name := 85, parent := none,
    items := .nex 30500 (.field 1 (.uint .b1) true (.field 3 (.uint .b4) true .nil))
            (.nex 30000 (.field 2 .buffer true .nil) .nil) }

def envW : Env := { structs := builtins ++ [asWritten], protos := [] }
def envM : Env := { structs := builtins ++ [merged], protos := [] }
def cfg305 : Cfg := { nexVersion := 30500, structHeader := false, pidSize := 4 }
def cfg304 : Cfg := { nexVersion := 30499, structHeader := false, pidSize := 4 }

end ExOrder
end Nx.Schema
